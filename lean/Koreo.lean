-- Root of the `Koreo` library: models (core Lean only) and property theorems.
import Koreo.Props.C01
import Koreo.Props.C02
import Koreo.Props.C03
import Koreo.Props.C04
import Koreo.Props.C05
import Koreo.Props.C06
import Koreo.Props.C07
import Koreo.Props.C08
import Koreo.Props.C09
import Koreo.Props.C10
import Koreo.Props.C11
import Koreo.Props.C12
import Koreo.Props.C13
import Koreo.Props.C14
import Koreo.Props.C15
import Koreo.Props.C16
import Koreo.Props.C17
import Koreo.Props.C18
import Koreo.Props.C19
import Koreo.Props.C20
