/-
  C09 — Workflow reconcile contains faults, stays truthful, and recovers.   (partial: the containment clause fails
  at one point, `believable_404_is_reported_ok`, and is stated without it)
  Property theorems only; the lemmas are in `Koreo/Lemmas/WorkflowFaults.lean` and `Koreo/Lemmas/WorkflowRecovery.lean`.
  Model: `Koreo/WorkflowFaults.lean` (REPAIRED code, fixes/F1-condition-for-failed-step.diff) on top of
  `Koreo/Workflow.lean` (C01/C02), and for recovery `Koreo/WorkflowRecovery.lean` (systems of reconcilers).  `Koreo/Gen/WorkflowFaultConsts.lean` is regenerated from the source on every run.

  Clause by clause ("for EVERY outcome `tags` of the task group with `Possible …`": every fault point and kind,
  every schedule, any number of steps and forEach items, every CEL oracle `eval` and every environment `frun`):

    the affected step is reported as Retry or PermFail      affected_step_is_error, unfinished_step_is_retry,
                                                            faulty_answer_never_completes
    steps that need it are not run                          dependents_not_run
    the overall outcome is not Ok                           overall_not_ok, affected_overall_not_ok
    no condition claims readiness for a failed step         no_ready_condition_for_unsuccessful, conditions_truthful
    a pass returns normally                                 result_total, no_cause_all_done
    (the relation is inhabited / extends C01-C02)           timeout_outcome_possible, fault_free_is_reconcile
    (one Function) an API fault is answered Retry/PermFail/exception/hang, never Ok, and the cluster is where it
      was or where the fault-free evaluation takes it       rf_fault_contained, rf_fault_never_ok, rf_state_between
    (the point where containment fails)                     believable_404_is_reported_ok,
                                                            fault_never_ok_fails_when_believable, believable_404_recovers
    once the faults stop, further passes converge           rf_recovers, workflow_recovers, workflow_recovers_rf,
                                                            workflow_recovers_nested, workflow_recovers_built,
                                                            step_resource_function, step_foreach_or_switch,
                                                            step_subworkflow, koreo_workflow_recovers,
                                                            koreo_nested_workflow_recovers, koreo_rf_leaf,
                                                            subworkflow_answer_quiet
    (fault-free runs exist)                                 clean_runs_exist, nested_clean_runs_exist
    (the recovery system runs the workflow of C01/C09)      recovery_step_is_fault_model_step,
                                                            recovery_step_is_stepResult
-/
import Koreo.Lemmas.WorkflowFaults
import Koreo.Lemmas.WorkflowRecovery
import Koreo.Gen.WorkflowFaultConsts

namespace Koreo.C09
open Koreo Koreo.Workflow Koreo.WorkflowFaults

/-! ## the model's constants and branch table are those of the source -/

/-- the translator found both task groups, their post-loops and the error handling of the ResourceFunction -/
theorem extraction_ok : Koreo.Gen.WorkflowFaultConsts.extractionOk = true := by decide

/-- both task groups sit in a `try` whose bare `except:` only passes and run under `asyncio.timeout(STEP_TIMEOUT)`;
    the `cancelled` branch builds Retry(TIMEOUT_RETRY_DELAY), the `exception` branch
    Retry(UNKNOWN_ERROR_RETRY_DELAY) — in `_reconcile_steps` and in `_for_each_reconciler` — and those are the
    model's `classify` -/
theorem fault_branches_match_source :
    Koreo.Gen.WorkflowFaultConsts.stepsContained = true ∧
    Koreo.Gen.WorkflowFaultConsts.itemsContained = true ∧
    Koreo.Gen.WorkflowFaultConsts.stepsTimeoutIsStepTimeout = true ∧
    Koreo.Gen.WorkflowFaultConsts.itemsTimeoutIsStepTimeout = true ∧
    Koreo.Gen.WorkflowFaultConsts.stepsCancelledClass = "Retry" ∧
    Koreo.Gen.WorkflowFaultConsts.stepsExceptionClass = "Retry" ∧
    Koreo.Gen.WorkflowFaultConsts.itemsCancelledClass = "Retry" ∧
    Koreo.Gen.WorkflowFaultConsts.itemsExceptionClass = "Retry" ∧
    (∀ o, classify .cancelled o = ⟨.retry Koreo.Gen.WorkflowFaultConsts.stepsCancelledDelay, .null⟩) ∧
    (∀ o, classify .raised o = ⟨.retry Koreo.Gen.WorkflowFaultConsts.stepsExceptionDelay, .null⟩) ∧
    (∀ o, classify .cancelled o = ⟨.retry Koreo.Gen.WorkflowFaultConsts.itemsCancelledDelay, .null⟩) ∧
    (∀ o, classify .raised o = ⟨.retry Koreo.Gen.WorkflowFaultConsts.itemsExceptionDelay, .null⟩) ∧
    Koreo.Gen.WorkflowFaultConsts.stepsCancelledDelay = Koreo.Gen.WorkflowFaultConsts.timeoutRetryDelay ∧
    Koreo.Gen.WorkflowFaultConsts.stepsExceptionDelay = Koreo.Gen.WorkflowFaultConsts.unknownErrorRetryDelay := by
  refine ⟨by decide, by decide, by decide, by decide, rfl, rfl, rfl, rfl,
    fun _ => ?_, fun _ => ?_, fun _ => ?_, fun _ => ?_, by decide, by decide⟩ <;> rfl

/-- **the repair**: the condition of a timed-out / crashed step is built from the Retry outcome itself (type
    "Ready"), which is what `condsOfStep` models.  False on the unrepaired tree (defect F1: the `StepResult`
    tuple is handed over and `_condition_helper` falls into its "unwrapped Ok" arm). -/
theorem fault_conditions_from_outcome :
    Koreo.Gen.WorkflowFaultConsts.stepsCancelledCondFromOutcome = true ∧
    Koreo.Gen.WorkflowFaultConsts.stepsExceptionCondFromOutcome = true ∧
    Koreo.Gen.WorkflowFaultConsts.stepsCancelledCondType = "Ready" ∧
    Koreo.Gen.WorkflowFaultConsts.stepsExceptionCondType = "Ready" := by decide +kernel

/-- one row of the probed table agrees with the model: answer, cluster situation afterwards, API requests issued -/
def rfRowOk (r : RfCfg × ObjState × Option (Nat × FaultKind) × RAns ObjState × ObjState × List Method) : Bool :=
  decide ((rfPass objMach r.1 r.2.2.1 r.2.1).ans = r.2.2.2.1 ∧ (rfPass objMach r.1 r.2.2.1 r.2.1).st = r.2.2.2.2.1 ∧
    (rfPass objMach r.1 r.2.2.1 r.2.1).calls = r.2.2.2.2.2)

/-- **`rfPass` is what `reconcile_resource_function` does**: the table the translator obtains by running the REAL
    function against the in-memory API — every combination of flags (patch / never / recreate / readonly / create
    disabled / deleteIfExists) × situation (absent / matching / differing) × fault (none; GET or mutation failing with
    raise-before, raise-after, 404, 409, 500, 403, 429, no response, hang) — agrees with the model row by row: answer
    (Ok / Retry with its delay / PermFail / escaping exception / hang), situation afterwards, API requests.  Probed, not
    read off the syntax: restructuring the code leaves the table as it is; changing how any error is answered breaks
    this theorem. -/
theorem rf_table_matches_source : Koreo.Gen.WorkflowFaultConsts.rfTable.all rfRowOk = true := by decide +kernel

/-! ## containment and truthfulness, for every possible outcome of the task group -/

section group
variable {eval : EvalFn} {frun : FRun} {trig : JVal} {interrupted : Bool} {wf : Workflow}
  {tags : List (Label × StepTags)}

/-- **the affected step is reported as Retry or PermFail**: whenever the Logic of `s` (or one iteration of it) was
    evaluated and answered with an exception, a hang or an error outcome, the stored outcome of `s` is an error —
    whether its task completed, raised or was cancelled -/
theorem affected_step_is_error (hwf : wf.WF = true) (hp : Possible eval frun trig interrupted wf tags)
    {s : Step} (hs : s ∈ wf.steps)
    (haff : Affected eval frun trig (depsDone (entriesF eval frun trig interrupted wf tags) s.deps) s) :
    ∃ t o, lookupL s.label (entriesF eval frun trig interrupted wf tags) = some (t, o) ∧
      ((∃ d, o.res = .retry d) ∨ o.res = .permFail) := by
  obtain ⟨tg, -, hok, hl⟩ := possible_step hwf hp hs
  exact ⟨_, _, hl, isErr_cases (evalStep_affected_err haff hok)⟩

/-- a task that timed out or crashed is stored as Retry(TIMEOUT_RETRY_DELAY) / Retry(UNKNOWN_ERROR_RETRY_DELAY) -/
theorem unfinished_step_is_retry (hwf : wf.WF = true) (hp : Possible eval frun trig interrupted wf tags)
    {s : Step} (hs : s ∈ wf.steps) {t : Tag} {o : StepOut}
    (hl : lookupL s.label (entriesF eval frun trig interrupted wf tags) = some (t, o)) (ht : t ≠ .done) :
    o = ⟨.retry timeoutDelay, .null⟩ ∨ o = ⟨.retry errorDelay, .null⟩ := by
  obtain ⟨tg, -, hok, hl'⟩ := possible_step hwf hp hs
  rw [hl'] at hl
  cases hl
  exact (evalStep_not_done hok ht).elim (fun h => Or.inl h.2.2) (fun h => Or.inr h.2)

/-- a step whose Logic hangs is never reported as completed (nor as crashed); one whose Logic raises is never
    reported as completed -/
theorem faulty_answer_never_completes (hwf : wf.WF = true) (hp : Possible eval frun trig interrupted wf tags)
    {s : Step} (hs : s ∈ wf.steps) {dr act inputs}
    (hdd : depsDone (entriesF eval frun trig interrupted wf tags) s.deps = some dr)
    (hg : gate eval trig dr s = .single act inputs) {t : Tag} {o : StepOut}
    (hl : lookupL s.label (entriesF eval frun trig interrupted wf tags) = some (t, o)) :
    ((evalLogicF eval frun s.label none act inputs s.logic).1 = .hung → t = .cancelled) ∧
    ((evalLogicF eval frun s.label none act inputs s.logic).1 = .raised → t ≠ .done) := by
  obtain ⟨tg, -, hok, hl'⟩ := possible_step hwf hp hs
  rw [hl'] at hl
  cases hl
  rw [hdd, evalStep_single hg] at hok
  have htag := (Bool.and_eq_true_iff.1 hok).1
  exact ⟨fun h => tagOK_hung (h ▸ htag), fun h => tagOK_raised (h ▸ htag)⟩

/-- **steps that need it are not run**: if a dependency of `m` did not end as a completed task with an Ok outcome,
    no Function / sub-workflow is invoked on behalf of `m`, and `m` is stored as DepSkip (or, if its own task did
    not survive, as the time-out Retry) -/
theorem dependents_not_run (hwf : wf.WF = true) (hp : Possible eval frun trig interrupted wf tags)
    {m : Step} (hm : m ∈ wf.steps) {d : Label} (hd : d ∈ m.deps)
    (hbad : ∀ v rid, lookupL d (entriesF eval frun trig interrupted wf tags) ≠ some (.done, ⟨.ok v, rid⟩)) :
    m.label ∉ mayRunF eval frun trig interrupted wf tags ∧
    ∃ t o, lookupL m.label (entriesF eval frun trig interrupted wf tags) = some (t, o) ∧
      ((t = .cancelled ∧ o = ⟨.retry timeoutDelay, .null⟩) ∨ (t = .done ∧ o = ⟨.depSkip, .null⟩)) := by
  have hgate := depsDone_not_ok hd hbad
  refine ⟨possible_not_mayRun hwf hp hm fun _ => (evalStep_gated hgate).1, ?_⟩
  obtain ⟨tg, -, hok, hl⟩ := possible_step hwf hp hm
  exact ⟨_, _, hl, (evalStep_gated hgate).2 hok⟩

/-- **the overall outcome is not Ok** as soon as one listed step is stored as an error: it is Retry or PermFail,
    and the final `Ready` condition does not say "Ready" -/
theorem overall_not_ok {s : Step} (hs : s ∈ wf.steps) {pre : List (Label × Entry)} {t : Tag} {o : StepOut}
    (hl : lookupL s.label pre = some (t, o)) (he : o.res.isErr = true) :
    ((∃ d, (collectF eval wf pre).overall = .retry d) ∨ (collectF eval wf pre).overall = .permFail) ∧
    (collectF eval wf pre).conditions.getLast? =
      some { type := "Ready", reason := reason (collectF eval wf pre).overall } ∧
    reason (collectF eval wf pre).overall ≠ "Ready" := by
  have herr : (collectF eval wf pre).overall.isErr = true :=
    overallOf_err ⟨o, mem_listed_of_entry hs hl, he⟩
  refine ⟨isErr_cases herr, by simp [collectF], ?_⟩
  rcases isErr_cases herr with ⟨d, h⟩ | h <;> rw [h] <;> exact reason_ne_ready rfl

/-- the first three clauses together: a fault in step `s` makes the whole pass an error -/
theorem affected_overall_not_ok (hwf : wf.WF = true) (hp : Possible eval frun trig interrupted wf tags)
    {s : Step} (hs : s ∈ wf.steps)
    (haff : Affected eval frun trig (depsDone (entriesF eval frun trig interrupted wf tags) s.deps) s) :
    (∃ d, (collectF eval wf (entriesF eval frun trig interrupted wf tags)).overall = .retry d) ∨
    (collectF eval wf (entriesF eval frun trig interrupted wf tags)).overall = .permFail := by
  obtain ⟨tg, -, hok, hl⟩ := possible_step hwf hp hs
  exact (overall_not_ok hs hl (evalStep_affected_err haff hok)).1

/-- **no condition claims readiness for a step that did not succeed**: unless the step's task completed with an Ok
    outcome, none of the conditions emitted for it has reason "Ready" -/
theorem no_ready_condition_for_unsuccessful (hwf : wf.WF = true)
    (hp : Possible eval frun trig interrupted wf tags) {s : Step} (hs : s ∈ wf.steps) {e : Entry}
    (hl : lookupL s.label (entriesF eval frun trig interrupted wf tags) = some e)
    (hbad : ¬ (e.1 = .done ∧ e.2.res.isOk = true)) :
    ∀ c ∈ condsOfStep s e, c.reason ≠ "Ready" := by
  obtain ⟨t, o⟩ := e
  intro c hc
  have hnot : o.res.isOk = false := by
    by_cases ht : t = .done
    · cases h : o.res.isOk with
      | false => rfl
      | true => exact absurd ⟨ht, h⟩ hbad
    · rcases unfinished_step_is_retry hwf hp hs hl ht with h | h <;> rw [h] <;> rfl
  rw [condsOfStep_reason hc]
  exact reason_ne_ready hnot

/-- every condition of the returned `Result` is one emitted for a listed step from its stored entry, or the final
    `Ready` condition; and the final one says "Ready" only if no listed step is stored as an error -/
theorem conditions_truthful (pre : List (Label × Entry)) :
    (∀ c ∈ (collectF eval wf pre).conditions,
      (∃ s ∈ wf.steps, ∃ e, lookupL s.label pre = some e ∧ c ∈ condsOfStep s e) ∨
      c = { type := "Ready", reason := reason (collectF eval wf pre).overall }) ∧
    (reason (collectF eval wf pre).overall = "Ready" →
      ∀ s ∈ wf.steps, ∀ e, lookupL s.label pre = some e → e.2.res.isErr = false) := by
  constructor
  · intro c hc
    simp only [collectF, List.mem_append, List.mem_singleton] at hc
    exact hc.imp mem_stepCondsF id
  · intro hready s hs e hl
    exact overallOf_ok (reason_ready_isOk hready) _ (mem_listed_of_entry hs hl)

/-- **a pass returns normally**: every listed step gets an entry (one of the three branches of the post-loop
    applies to every task), the entries are in listed order, an unfinished task is stored as one of the two
    Retries, and what a sub-workflow hands to its parent is an answer — never an exception -/
theorem result_total (hwf : wf.WF = true) (hp : Possible eval frun trig interrupted wf tags) :
    (entriesF eval frun trig interrupted wf tags).map (·.1) = labels wf.steps ∧
    (∀ s ∈ wf.steps, ∃ t o, lookupL s.label (entriesF eval frun trig interrupted wf tags) = some (t, o) ∧
      (t ≠ .done → o = ⟨.retry timeoutDelay, .null⟩ ∨ o = ⟨.retry errorDelay, .null⟩)) ∧
    (∀ api, ∃ o, subAnswer eval wf (entriesF eval frun trig interrupted wf tags) api = .ans o) := by
  refine ⟨possible_labels hp, ?_, fun api => ⟨_, rfl⟩⟩
  intro s hs
  obtain ⟨tg, -, -, hl⟩ := possible_step hwf hp hs
  exact ⟨_, _, hl, unfinished_step_is_retry hwf hp hs hl⟩

/-- nothing is cancelled without a cause: if the group was not interrupted and no step task raised, every listed
    step's task completed -/
theorem no_cause_all_done (hwf : wf.WF = true) (hp : Possible eval frun trig interrupted wf tags)
    (hc : causeOf interrupted tags = false) {s : Step} (hs : s ∈ wf.steps) :
    ∃ o, lookupL s.label (entriesF eval frun trig interrupted wf tags) = some (.done, o) := by
  obtain ⟨tg, htg, hok, hl⟩ := possible_step hwf hp hs
  by_cases ht : tg.tag = .done
  · rw [ht] at hl; exact ⟨_, hl⟩
  · exfalso
    rcases evalStep_not_done hok ht with ⟨-, hcause, -⟩ | ⟨hraised, -⟩
    · rw [hc] at hcause; cases hcause
    · -- a step task that raised is itself a cause
      simp only [causeOf, Bool.or_eq_false_iff, List.any_eq_false, decide_eq_true_eq] at hc
      exact hc.2 _ htg hraised

/-- the relation is never empty: whatever the workflow and the environment, "the group timed out before anything
    completed" is a possible outcome (so the theorems above are not vacuous for any workflow) -/
theorem timeout_outcome_possible (eval : EvalFn) (frun : FRun) (trig : JVal) (wf : Workflow) :
    Possible eval frun trig true wf (wf.steps.map fun s => (s.label, ⟨.cancelled, []⟩)) :=
  -- `causeOf true _` is `true` by computation
  runStepsF_all_cancelled eval frun trig wf.steps {} rfl

/-- **the fault model extends C01/C02**: in an environment without faults (`liftRun run`) and without interruption,
    "every task completed" is a possible outcome, what the post-loop stores is the sequential trace of C01, and the
    Result is C01's `reconcile` (which C02 proves to be the answer under every completion order) -/
theorem fault_free_is_reconcile (eval : EvalFn) (run : RunFn) (trig : JVal) (wf : Workflow) (hwf : wf.WF = true) :
    Possible eval (liftRun run) trig false wf (doneTags eval run trig wf.steps {}) ∧
    resultsF eval (liftRun run) trig false wf (doneTags eval run trig wf.steps {}) =
      (trace eval run trig wf).results ∧
    collectF eval wf (entriesF eval (liftRun run) trig false wf (doneTags eval run trig wf.steps {})) =
      reconcile eval run trig wf := by
  obtain ⟨h1, h2⟩ := runStepsF_fault_free eval run trig
    (causeOf false (doneTags eval run trig wf.steps {})) wf.steps {} {}
    hwf rfl rfl
  have hpre : entriesF eval (liftRun run) trig false wf (doneTags eval run trig wf.steps {}) =
      (trace eval run trig wf).results.map fun p => (p.1, (Tag.done, p.2)) := h2
  refine ⟨h1, ?_, ?_⟩
  · unfold resultsF
    rw [hpre]
    exact map_done_results _
  · rw [hpre]
    exact collectF_all_done eval wf _

end group

section rf
variable {S : Type} (m : RMach S) (cfg : RfCfg)

/-- **a fault that is hit is never answered Ok** (`j < calls.length`: the faulted call was issued; `¬ Believable`:
    the believable 404 below apart): a fault cannot make a Function claim success, nor hand a fabricated value
    downstream -/
theorem rf_fault_never_ok (j : Nat) (k : FaultKind) (s : S)
    (hhit : j < (rfPass m cfg (some (j, k)) s).calls.length) (hnb : ¬ Believable cfg j k) :
    ∀ x, (rfPass m cfg (some (j, k)) s).ans ≠ .ok x := by
  intro x
  refine rfPass_cases m cfg (P := fun r => j < r.calls.length → r.ans ≠ .ok x) (some (j, k)) s
    (fun a ha hhit hx => ?_) (fun _ _ _ ha _ _ => ha x) hhit
  -- only the GET was issued, so it is the GET that failed; an Ok then means the 404 was believed
  obtain rfl : j = 0 := Nat.lt_one_iff.1 hhit
  exact hnb ((ha x hx).2 k rfl)

/-- hence, whatever the `j`-th API call of an evaluation does — exception before or after it took effect, HTTP 404 /
    409 / 500 / another 4xx, no response, hang — if that call is issued at all the evaluation answers Retry or PermFail,
    or lets the exception escape, or hangs.  (The weakened statement (DESIGN 2.6): hypothesis `¬ Believable`, which excludes exactly the
    point at which the full statement is false, `believable_404_is_reported_ok`.) -/
theorem rf_fault_contained (j : Nat) (k : FaultKind) (s : S)
    (hhit : j < (rfPass m cfg (some (j, k)) s).calls.length) (hnb : ¬ Believable cfg j k) :
    (∃ d, (rfPass m cfg (some (j, k)) s).ans = .retry d) ∨ (rfPass m cfg (some (j, k)) s).ans = .permFail ∨
    (rfPass m cfg (some (j, k)) s).ans = .raised ∨ (rfPass m cfg (some (j, k)) s).ans = .hung := by
  cases h : (rfPass m cfg (some (j, k)) s).ans with
  | ok x => exact absurd h (rf_fault_never_ok m cfg j k s hhit hnb x)
  | retry d => exact Or.inl ⟨d, rfl⟩
  | permFail => exact Or.inr (Or.inl rfl)
  | raised => exact Or.inr (Or.inr (Or.inl rfl))
  | hung => exact Or.inr (Or.inr (Or.inr rfl))

/-- **the full containment statement is FALSE at exactly one point** (recorded as the known finding
    `believable-404-on-delete-if-exists`; `rf_fault_contained` / `rf_fault_never_ok` above are the weakened
    statements (DESIGN 2.6) that exclude it through the hypothesis `¬ Believable`): a `deleteIfExists` Function whose GET is answered 404 reports Ok
    — whatever the cluster really holds, in particular when the object is still there — and changes nothing.  No
    repair is possible on the client side: a 404 on a GET IS the API's way of saying "absent", and "absent" is this
    Function's success. -/
theorem believable_404_is_reported_ok (hde : cfg.deleteIfExists = true) (s : S) :
    (rfPass m cfg (some (0, .e404)) s).ans = .ok s ∧ (rfPass m cfg (some (0, .e404)) s).st = s ∧
    0 < (rfPass m cfg (some (0, .e404)) s).calls.length ∧ Believable cfg 0 .e404 := by
  have h : rfPass m cfg (some (0, .e404)) s = ⟨.ok s, s, [.get]⟩ := by rw [rfPass_get_fault]; simp [hde]
  rw [h]
  exact ⟨rfl, rfl, Nat.zero_lt_one, hde, rfl, rfl⟩

/-- … hence the unrestricted statement "a fault that is hit is never answered Ok" does not hold -/
theorem fault_never_ok_fails_when_believable (hde : cfg.deleteIfExists = true) (s : S) :
    ¬ ∀ x, (rfPass m cfg (some (0, .e404)) s).ans ≠ .ok x :=
  fun h => h s (believable_404_is_reported_ok m cfg hde s).1

/-- … while the recovery clause survives: the next fault-free evaluation issues the DELETE the faulty one skipped -/
theorem believable_404_recovers (hde : cfg.deleteIfExists = true) (s : S) (hp : m.present s = true) :
    (rfPass m cfg none (rfPass m cfg (some (0, .e404)) s).st).st = m.delete s := by
  rw [(believable_404_is_reported_ok m cfg hde s).2.1, rfPass_none_present m cfg hp, if_pos hde]

/-- each faulty mutation either took effect or did not; an evaluation that answers Ok changed nothing -/
theorem rf_state_between (fault : Option (Nat × FaultKind)) (s : S) :
    ((rfPass m cfg fault s).st = s ∨ (rfPass m cfg fault s).st = (rfPass m cfg none s).st) ∧
    (∀ x, (rfPass m cfg fault s).ans = .ok x → (rfPass m cfg fault s).st = s ∧ x = s) :=
  ⟨rfPass_state_between m cfg fault s, rfPass_ok_unchanged m cfg fault s⟩

/-- **per-resource recovery** (update policy `patch` or `never`; create and patch reach a matching object, which is
    C04's result about the real comparator): after ANY sequence of evaluations hit by faults, ONE further
    fault-free evaluation puts the resource where the never-faulted run puts it — for good — and from the SECOND on
    the answer is the never-faulted run's answer; the never-faulted run has that same fixpoint -/
theorem rf_recovers (hconv : Converges m) (hpol : cfg.policy ≠ .recreate) (hnd : cfg.deleteIfExists = false)
    (fs : List (Option (Nat × FaultKind))) (s0 : S) :
    (∀ n, 1 ≤ n → iter m cfg n (afterFaults m cfg fs s0) = iter m cfg 1 s0) ∧
    (∀ n, 1 ≤ n → (rfPass m cfg none (iter m cfg n (afterFaults m cfg fs s0))).ans =
        (rfPass m cfg none (iter m cfg 1 s0)).ans ∧
      (rfPass m cfg none (iter m cfg n (afterFaults m cfg fs s0))).st = iter m cfg 1 s0) ∧
    (∀ n, 1 ≤ n → iter m cfg n s0 = iter m cfg 1 s0) := by
  have h1 := iter_stable m cfg hconv hpol hnd (afterFaults_next m cfg hconv hpol hnd fs s0)
  refine ⟨h1, fun n hn => ?_, iter_stable m cfg hconv hpol hnd rfl⟩
  rw [h1 n hn]
  exact ⟨rfl, rfPass_stable m cfg hconv hpol hnd s0⟩

/-- the same over the in-memory cluster: objects are JSON values, PATCH is RFC 7386 merge-patch
    (`Koreo/MergePatch.lean`); the two facts about the comparator are hypotheses here and theorems of C04 -/
theorem rf_recovers_mergepatch (cmp : JVal → Bool) (created body : JVal)
    (hcreate : cmp created = true) (hpatch : ∀ live, cmp (mergePatch live body) = true)
    (hpol : cfg.policy ≠ .recreate) (hnd : cfg.deleteIfExists = false)
    (fs : List (Option (Nat × FaultKind))) (c0 : Option JVal) :
    ∀ n, 1 ≤ n →
      iter (jvalMach cmp created body) cfg n (afterFaults (jvalMach cmp created body) cfg fs c0) =
        iter (jvalMach cmp created body) cfg 1 c0 :=
  (rf_recovers (jvalMach cmp created body) cfg (jvalMach_converges hcreate hpatch) hpol hnd fs c0).1

/-- the three-situation machine the sweep's driver uses meets the hypotheses -/
theorem objMach_converges : Converges objMach := by
  constructor
  · intro s _; exact ⟨rfl, rfl⟩
  · intro s _; exact ⟨rfl, rfl⟩

end rf

section dagSys
variable {S V R : Type} {sys : DagSys S V R} {F : Nat → List V → S → S → Prop}

/-- fault-free passes exist from every cluster state, any number of them (the relations are not vacuous) -/
theorem clean_runs_exist (h : Hyps sys F) (N : Nat) (c : Nat → S) : ∃ cN, CleanRun sys N c cN := by
  induction N generalizing c with
  | zero => exact ⟨c, .zero c⟩
  | succ N ih =>
    obtain ⟨cN, hc⟩ := ih (passS sys c)
    exact ⟨cN, .succ (passF_isPass h.wf c) hc⟩

/-- **workflow-level recovery** for a DAG of `n` reconcilers in listed order, each owning its piece of the
    cluster, evaluated only when all its dependencies are Ok, on their values.  Hypotheses (`Hyps`): dependencies
    point backwards; every reconciler is stable after one fault-free evaluation, changes nothing when it answers Ok,
    and an evaluation hit by a fault leaves its resource in a state from which the next fault-free evaluation
    lands where it would have (this is `rf_state_between` + `rfPass_stable`).
    Then: take ANY number of passes in which ANY evaluations are hit by faults (never Ok, `rf_fault_never_ok`) or
    cancelled, from cluster `c0` to `c`.  After `N ≥ 2·n` fault-free passes the cluster equals the one the
    never-faulted run reaches after `N` passes, both equal the limit `finS`, and every further pass leaves it
    unchanged and returns the same results `finR` in both runs. -/
theorem workflow_recovers (h : Hyps sys F) {c0 c cN dN : Nat → S} {N : Nat}
    (hreach : Reach sys F c0 c) (hN : 2 * sys.n ≤ N)
    (hc : CleanRun sys N c cN) (hd : CleanRun sys N c0 dN) :
    (∀ i, i < sys.n → cN i = dN i ∧ cN i = finS sys c0 i) ∧
    (∀ c' r, IsPass sys cN c' r → ∀ i, i < sys.n → c' i = cN i ∧ r i = finR sys c0 i) ∧
    (∀ d' r, IsPass sys dN d' r → ∀ i, i < sys.n → d' i = dN i ∧ r i = finR sys c0 i) := by
  obtain ⟨h1, h2⟩ := dagSys_recovers h hreach hN hc
  obtain ⟨h3, h4⟩ := dagSys_recovers h (Reach.refl c0) hN hd
  exact ⟨fun i hi => ⟨(h1 i hi).trans (h3 i hi).symm, h1 i hi⟩, h2, h4⟩

/-- the hypotheses hold for a DAG of ResourceFunctions (patch / never policy, comparator as in C04) under the
    faults of `rfPass` -/
theorem rf_dag_hyps (n : Nat) (deps : Nat → List Nat) (mach : Nat → List S → RMach S)
    (cfg : Nat → List S → RfCfg) (hwf : ∀ i, ∀ d ∈ deps i, d < i)
    (hconv : ∀ i vs, Converges (mach i vs)) (hpol : ∀ i vs, (cfg i vs).policy ≠ .recreate)
    (hnd : ∀ i vs, (cfg i vs).deleteIfExists = false) :
    Hyps (rfSys n deps mach cfg) (rfFaulty mach cfg) where
  wf := hwf
  gated_not_ok := rfl
  stable := fun i vs s => rfPass_stable (mach i vs) (cfg i vs) (hconv i vs) (hpol i vs) (hnd i vs) s
  ok_unchanged := fun i vs s v hv => by
    cases ha : (rfPass (mach i vs) (cfg i vs) none s).ans with
    | ok x => exact (rfPass_ok_unchanged (mach i vs) (cfg i vs) none s x ha).1
    | _ => simp [rfSys, ha] at hv
  faulty_same_target := fun i vs s s' hF => by
    obtain ⟨f, rfl⟩ := hF
    exact rfPass_after_fault (mach i vs) (cfg i vs) (hconv i vs) (hpol i vs) (hnd i vs) f s

/-- **workflow-level recovery, ResourceFunction steps** — the flat form (every step ONE ResourceFunction
    evaluation, update policy patch / never).  It is the special case of `workflow_recovers_nested` /
    `workflow_recovers_built` (forEach and refSwitch vectors, sub-workflows to any depth, update policy recreate as
    well, bound `Σᵢ (kᵢ + 1)`) and `koreo_workflow_recovers` / `koreo_nested_workflow_recovers` (the workflows of
    `Koreo/Workflow.lean` themselves).  What is ASSUMED there, and nowhere proved, is named in their hypotheses: the comparator reaches a matching object by create and by patch
    (C04), DELETE removes the object, every (step, forEach position, selected target) evaluation owns its piece of the
    cluster, and an evaluation hit by a fault or cancelled never answers Ok (proved for one ResourceFunction:
    `rf_fault_never_ok`). -/
theorem workflow_recovers_rf (n : Nat) (deps : Nat → List Nat) (mach : Nat → List S → RMach S)
    (cfg : Nat → List S → RfCfg) (hwf : ∀ i, ∀ d ∈ deps i, d < i)
    (hconv : ∀ i vs, Converges (mach i vs)) (hpol : ∀ i vs, (cfg i vs).policy ≠ .recreate)
    (hnd : ∀ i vs, (cfg i vs).deleteIfExists = false)
    {c0 c cN dN : Nat → S} {N : Nat}
    (hreach : Reach (rfSys n deps mach cfg) (rfFaulty mach cfg) c0 c) (hN : 2 * n ≤ N)
    (hc : CleanRun (rfSys n deps mach cfg) N c cN) (hd : CleanRun (rfSys n deps mach cfg) N c0 dN) :
    (∀ i, i < n → cN i = dN i) ∧
    (∀ c' r d' r', IsPass (rfSys n deps mach cfg) cN c' r → IsPass (rfSys n deps mach cfg) dN d' r' →
      ∀ i, i < n → c' i = cN i ∧ d' i = dN i ∧ r i = r' i) := by
  have h := rf_dag_hyps n deps mach cfg hwf hconv hpol hnd
  obtain ⟨h1, h2, h3⟩ := workflow_recovers h hreach hN hc hd
  refine ⟨fun i hi => (h1 i hi).1, ?_⟩
  intro c' r d' r' hp hp' i hi
  have a := h2 c' r hp i hi
  have b := h3 d' r' hp' i hi
  exact ⟨a.1, b.1, by rw [a.2, b.2]⟩

end dagSys

section nested
variable {X V R : Type}

/-- **recovery of nested workflows**.  `sys`: steps in listed order, each with its OWN kind of cluster state and its
    own reconciler, evaluated only when all its dependencies are Ok, on their values; step `i` needs `kᵢ` fault-free
    evaluations to stabilise.  Take ANY number of passes in which ANY evaluations are hit by faults or cancelled
    (`GReach`, never answering Ok), from cluster `c0` to `c`.  After `N ≥ bound n = Σᵢ (kᵢ + 1)` fault-free passes the
    cluster equals the one the never-faulted run reaches after `N` passes, both equal the limit `gfinS`, and every
    further pass leaves it unchanged and returns the limit results `gfinR` in both runs. -/
theorem workflow_recovers_nested {sys : GSys X V R} (h : GHyps sys) {x : X} {c0 c cN dN : sys.State} {N : Nat}
    (hreach : GReach sys x c0 c) (hN : sys.bound sys.n ≤ N)
    (hc : GCleanRun sys x N c cN) (hd : GCleanRun sys x N c0 dN) :
    (∀ i, i < sys.n → cN i = dN i ∧ cN i = gfinS sys x c0 i) ∧
    (∀ c' r, GIsPass sys x cN c' r → ∀ i, i < sys.n → c' i = cN i ∧ r i = gfinR sys x c0 i) ∧
    (∀ d' r, GIsPass sys x dN d' r → ∀ i, i < sys.n → d' i = dN i ∧ r i = gfinR sys x c0 i) := by
  obtain ⟨h1, h2⟩ := grecovers h hreach hN hc
  obtain ⟨h3, h4⟩ := grecovers h (GReach.refl c0) hN hd
  exact ⟨fun i hi => ⟨by rw [h1 i hi, h3 i hi], h1 i hi⟩, h2, h4⟩

/-- the pass bound, explicitly: one more than its number of evaluations for every step -/
theorem pass_bound_explicit (sys : GSys X V R) :
    sys.bound sys.n = ((List.range sys.n).map fun i => (sys.step i).k + 1).sum :=
  bound_eq_sum sys sys.n

/-- fault-free runs of any length exist from every cluster state (the relations are not vacuous) -/
theorem nested_clean_runs_exist {sys : GSys X V R} (h : GHyps sys) (x : X) (N : Nat) (c : sys.State) :
    ∃ cN, GCleanRun sys x N c cN :=
  ⟨_, gcleanRun_iter h.wf x N c⟩

/-- a ResourceFunction step meets the step hypotheses for EVERY update policy — patch / never with one evaluation,
    delete-to-recreate with two — under every fault of `rfPass` (comparator as in C04, DELETE removes the object) -/
theorem step_resource_function {S : Type} (rv : ResView V R) (mach : X → List V → RMach S)
    (cfg : X → List V → RfCfg) (k : Nat) (ofAns : X → List V → RAns S → R)
    (hconv : ∀ x vs, Converges (mach x vs))
    (hdel : ∀ x vs s, (mach x vs).present ((mach x vs).delete s) = false)
    (hk : ∀ x vs, rfK (cfg x vs) ≤ k)
    (hans : ∀ x vs a, rv.isErr (ofAns x vs a) = false → ∃ seen, a = .ok seen) :
    StepOK rv (rfStepper mach cfg k ofAns) :=
  rf_stepOK rv mach cfg k ofAns hconv hdel hk hans

/-- **forEach / refSwitch**: a vector of reconcilers indexed by a key — which keys are evaluated (the item list,
    the selected case) being a function of the step's inputs — meets the step hypotheses with the items' number of
    evaluations, for ANY number of items -/
theorem step_foreach_or_switch {K S : Type} [DecidableEq K] (rv : ResView V R) (keys : X → List V → List K)
    (item : K → Stepper X V R S) (k : Nat) (comb : X → List V → List R → R)
    (hitem : ∀ key, StepOK rv (item key)) (hk : ∀ key, (item key).k ≤ k)
    (hcomb : ∀ x vs rs, rv.isErr (comb x vs rs) = false → ∀ r ∈ rs, rv.isErr r = false) :
    StepOK rv (vecStepper keys item k comb) :=
  vec_stepOK rv keys item k comb hitem hk hcomb

/-- **sub-workflows**: a whole workflow meeting `GHyps`, run as ONE step of an outer workflow, meets the step
    hypotheses with `k = bound n = Σⱼ (kⱼ + 1)` of the inner workflow — so the outer bound is the sum over the nested
    structure: `Σᵢ (kᵢ + 1)` with `kᵢ = Σⱼ (kᵢⱼ + 1)` for a sub-workflow step, and so on to any depth -/
theorem step_subworkflow {X' : Type} (rv : ResView V R) (inner : GSys X' V R) (trig : X → List V → X')
    (agg : X → List V → (Nat → R) → R) (h : GHyps inner)
    (hagg : ∀ x vs r, rv.isErr (agg x vs r) = false → ∀ j, j < inner.n → inner.rv.isErr (r j) = false) :
    StepOK rv (dagStepper inner trig agg) ∧
    (dagStepper inner trig agg).k = ((List.range inner.n).map fun j => (inner.step j).k + 1).sum :=
  ⟨dag_stepOK rv inner trig agg h hagg, pass_bound_explicit inner⟩

/-- **`workflow_recovers_rf` for every shape of workflow**: for every workflow all of whose steps are in the class `Built` —
    ResourceFunctions with update policy patch, never or recreate; steps that own no resource; forEach and refSwitch
    over such reconcilers; sub-workflows of such steps, to any depth; inputs re-wired by any function of the
    dependencies' values — after any number of faulty passes with any cancellations, `Σᵢ (kᵢ + 1)` fault-free passes
    reach the cluster contents and results of the never-faulted run, for good -/
theorem workflow_recovers_built {sys : GSys X V R}
    (hwf : ∀ i, ∀ d ∈ sys.deps i, d < i) (hgated : sys.rv.okv sys.rv.gated = none)
    (hok : ∀ r v, sys.rv.okv r = some v → sys.rv.isErr r = false)
    (hsteps : ∀ i, Built sys.rv (sys.step i))
    {x : X} {c0 c cN dN : sys.State} {N : Nat}
    (hreach : GReach sys x c0 c) (hN : ((List.range sys.n).map fun i => (sys.step i).k + 1).sum ≤ N)
    (hc : GCleanRun sys x N c cN) (hd : GCleanRun sys x N c0 dN) :
    (∀ i, i < sys.n → cN i = dN i) ∧
    (∀ c' r d' r', GIsPass sys x cN c' r → GIsPass sys x dN d' r' →
      ∀ i, i < sys.n → c' i = cN i ∧ d' i = dN i ∧ r i = r' i) := by
  rw [← pass_bound_explicit] at hN
  obtain ⟨h1, h2, h3⟩ := workflow_recovers_nested ⟨hwf, hgated, hok, fun i => built_stepOK (hsteps i)⟩ hreach hN hc hd
  exact ⟨fun i hi => (h1 i hi).1, fun c' r d' r' hp hp' i hi =>
    ⟨(h2 c' r hp i hi).1, (h3 d' r' hp' i hi).1, (h2 c' r hp i hi).2.trans (h3 d' r' hp' i hi).2.symm⟩⟩

end nested

section koreo
open Koreo.Workflow

/-- a ResourceFunction target (any update policy; comparator as in C04; DELETE removes the object) meets the step
    hypotheses with two evaluations -/
theorem koreo_rf_leaf {S : Type} (mach : JVal → RMach S) (cfg : JVal → RfCfg) (ret : JVal → S → JVal)
    (hconv : ∀ x, Converges (mach x)) (hdel : ∀ x s, (mach x).present ((mach x).delete s) = false) :
    StepOK stepRv (rfLeaf mach cfg ret) ∧ (rfLeaf mach cfg ret).k = 2 :=
  ⟨rf_stepOK stepRv _ _ 2 _ (fun x _ => hconv x) (fun x _ s => hdel x s) (fun _ _ => rfK_le_two _)
    (fun _ _ _ => rfLeafAns_quiet), rfl⟩

/-- **recovery of a `Workflow`** whose steps use `ref` / `refSwitch` over Functions, `inputs`, `skipIf`, `forEach`
    (any number of items): `ofWorkflow` runs C01's own `gate`, `select`, `setKey` and `combineItems` over one piece of
    cluster state per (step, forEach position, selected target).  If every target's reconciler meets the step
    hypotheses with at most `k` evaluations, then after ANY number of faulty passes with ANY cancellations,
    `|steps| · (k + 1)` fault-free passes reach the never-faulted cluster and results, for good. -/
theorem koreo_workflow_recovers {S₀ : Type} (eval : EvalFn) (tgt : Target → Stepper JVal JVal StepOut S₀) (k : Nat)
    (wf : Workflow) (hwf : wf.WF = true) (htgt : ∀ t, StepOK stepRv (tgt t)) (hk : ∀ t, (tgt t).k ≤ k)
    {x : JVal} {c0 c cN dN : (ofWorkflow eval tgt k wf).State} {N : Nat}
    (hreach : GReach (ofWorkflow eval tgt k wf) x c0 c) (hN : wf.steps.length * (k + 1) ≤ N)
    (hc : GCleanRun (ofWorkflow eval tgt k wf) x N c cN) (hd : GCleanRun (ofWorkflow eval tgt k wf) x N c0 dN) :
    (∀ i, i < wf.steps.length → cN i = dN i) ∧
    (∀ c' r d' r', GIsPass (ofWorkflow eval tgt k wf) x cN c' r → GIsPass (ofWorkflow eval tgt k wf) x dN d' r' →
      ∀ i, i < wf.steps.length → c' i = cN i ∧ d' i = dN i ∧ r i = r' i) := by
  obtain ⟨h1, h2, h3⟩ := workflow_recovers_nested (ofWorkflow_hyps eval tgt k wf hwf htgt hk) hreach
    (Nat.le_trans (Nat.le_of_eq (ofWorkflow_bound eval tgt k wf)) hN) hc hd
  exact ⟨fun i hi => (h1 i hi).1, fun c' r d' r' hp hp' i hi =>
    ⟨(h2 c' r hp i hi).1, (h3 d' r' hp' i hi).1, (h2 c' r hp i hi).2.trans (h3 d' r' hp' i hi).2.symm⟩⟩

/-- **… with sub-workflows to depth `n`** (induction on the nesting depth, `tgtAt_ok`): targets are Functions (`leaf`,
    at most `kleaf` evaluations) or named sub-workflows from `defs` (each well-formed, at most `len` steps), run as one
    step with the step's inputs as trigger and `subOut ∘ collect` as result.  Explicit bound: a target at depth `m`
    needs at most `kAt m` evaluations, `kAt 0 = kleaf`, `kAt (m+1) = max kleaf (len · (kAt m + 1))`; the workflow needs
    `|steps| · (kAt n + 1)` fault-free passes (the exact figure is `GSys.bound`, the sum over the nested structure). -/
theorem koreo_nested_workflow_recovers {S : Type} (eval : EvalFn) (leaf : String → Stepper JVal JVal StepOut S)
    (kleaf len : Nat) (defs : Env) (n : Nat) (wf : Workflow) (hwf : wf.WF = true)
    (hleaf : ∀ id, StepOK stepRv (leaf id)) (hkleaf : ∀ id, (leaf id).k ≤ kleaf)
    (hdefs : ∀ name w, lookupL name defs = some w → w.WF = true ∧ w.steps.length ≤ len)
    {x : JVal}
    {c0 c cN dN : (ofWorkflow eval (tgtAt eval leaf kleaf len defs n) (kAt kleaf len n) wf).State} {N : Nat}
    (hreach : GReach (ofWorkflow eval (tgtAt eval leaf kleaf len defs n) (kAt kleaf len n) wf) x c0 c)
    (hN : wf.steps.length * (kAt kleaf len n + 1) ≤ N)
    (hc : GCleanRun (ofWorkflow eval (tgtAt eval leaf kleaf len defs n) (kAt kleaf len n) wf) x N c cN)
    (hd : GCleanRun (ofWorkflow eval (tgtAt eval leaf kleaf len defs n) (kAt kleaf len n) wf) x N c0 dN) :
    (∀ i, i < wf.steps.length → cN i = dN i) ∧
    (∀ c' r d' r',
      GIsPass (ofWorkflow eval (tgtAt eval leaf kleaf len defs n) (kAt kleaf len n) wf) x cN c' r →
      GIsPass (ofWorkflow eval (tgtAt eval leaf kleaf len defs n) (kAt kleaf len n) wf) x dN d' r' →
      ∀ i, i < wf.steps.length → c' i = cN i ∧ d' i = dN i ∧ r i = r' i) :=
  koreo_workflow_recovers eval _ _ wf hwf
    (fun t => (tgtAt_ok eval leaf kleaf len defs hleaf hkleaf hdefs n t).1)
    (fun t => (tgtAt_ok eval leaf kleaf len defs hleaf hkleaf hdefs n t).2) hreach hN hc hd

/-- a sub-workflow that does not hand an error to its parent had no failing step (what makes it a reconciler) -/
theorem subworkflow_answer_quiet (eval : EvalFn) (w : Workflow) (hwf : w.WF = true) (r : Nat → StepOut)
    (h : (aggOf eval w r).res.isErr = false) : ∀ j, j < w.steps.length → (r j).res.isErr = false :=
  aggOf_quiet eval w hwf r h

/-- **the recovery system runs the workflow of C01/C09**: what a fault-free evaluation of step `s` answers in
    `ofWorkflow` — for trigger `x`, dependency values `vs`, cluster state `cs` — is what the fault model's `evalStep`
    stores for `s` when every task completes, in the fault-free environment `frunOf tgt cs` that answers each
    evaluation from the state of its own (forEach position, target) slot -/
theorem recovery_step_is_fault_model_step {S₀ : Type} (eval : EvalFn) (tgt : Target → Stepper JVal JVal StepOut S₀)
    (k : Nat) (s : Step) (x : JVal) (vs : List JVal) (cs : EKey → S₀) (cause : Bool) :
    ((vecStepper (evalKeys eval s) (itemOf tgt eval s) k (combStep eval s)).pass x vs cs).2 =
      (evalStep eval (frunOf tgt cs) x cause (some (drOf s.deps vs)) s
        ⟨.done, match gate eval x (drOf s.deps vs) s with
          | .each _ _ _ items => items.map fun _ => Tag.done
          | _ => []⟩).out := by
  show combStep eval s x vs ((evalKeys eval s x vs).map fun key =>
    ((itemOf tgt eval s key).pass x vs (cs key)).2) = _
  cases hg : gate eval x (drOf s.deps vs) s with
  | done o =>
    rw [evalStep_done hg, evalKeys_done hg]
    exact combStep_done hg
  | single act inputs =>
    rw [evalStep_single hg, evalKeys_single hg]
    exact (combStep_single hg _).trans
      (itemOf_result eval tgt s x vs cs s.label none act inputs (evalInputsAt_single hg))
  | each act inputs key items =>
    rw [evalStep_each hg (by simpa using gate_each_ne_nil hg), evalKeys_each hg, combStep_each hg, List.map_map]
    exact congrArg combineItems (items_result eval tgt s x vs cs act inputs key items hg)

/-- … and, when the slots of one target hold the same state (`cs (idx, t) = c t`: what C01's position-blind Function
    oracle `run` can express), it is C01's `stepResult` for the oracle that reads the cluster -/
theorem recovery_step_is_stepResult {S₀ : Type} (eval : EvalFn) (tgt : Target → Stepper JVal JVal StepOut S₀)
    (k : Nat) (s : Step) (x : JVal) (vs : List JVal) (cs : EKey → S₀) (c : Target → S₀)
    (hcs : ∀ idx t, cs (idx, some t) = c t) :
    ((vecStepper (evalKeys eval s) (itemOf tgt eval s) k (combStep eval s)).pass x vs cs).2 =
      (stepResult eval
        (fun t inputs => ⟨((tgt t).pass inputs [] (c t)).2.res, ((tgt t).pass inputs [] (c t)).2.rid, []⟩)
        x (drOf s.deps vs) s).1 := by
  have hf : frunOf tgt cs = liftRun fun t inputs =>
      ⟨((tgt t).pass inputs [] (c t)).2.res, ((tgt t).pass inputs [] (c t)).2.rid, []⟩ := by
    funext l idx t inputs
    simp only [frunOf, liftRun, hcs]
  rw [recovery_step_is_fault_model_step eval tgt k s x vs cs false, hf]
  exact (evalStep_fault_free eval _ x false (drOf s.deps vs) s).2

end koreo

section example_
/-- `a` creates, `b` needs `a`, `c` is independent, `each` iterates over two items -/
def exWf : Workflow :=
  { name := "ex"
    steps := [
      { label := "a", logic := .ref (.fn "f"), cond := some ("Ca", "a") },
      { label := "b", deps := ["a"], logic := .ref (.fn "g"),
        inputs := some (.mapE [("u", .path "steps" ["a"])]), cond := some ("Cb", "b") },
      { label := "c", logic := .ref (.fn "g"), cond := some ("Cc", "c") },
      { label := "each", logic := .ref (.fn "g"), cond := some ("Ce", "each"),
        forEach := some ⟨.lit (.arr [.str "p", .str "q"]), "item"⟩ } ] }

def okOut : FnOut := ⟨.ok (.str "v"), .null, ["GET x"]⟩

/-- the POST of `a` hangs -/
def hangA : FRun := fun l _ _ _ => if l = "a" then .hung else .ans okOut
/-- the PATCH of `c` raises; iteration 1 of `each` hangs -/
def raiseC : FRun := fun l i _ _ =>
  if l = "c" then .raised else if l = "each" ∧ i = some 1 then .hung else .ans okOut

example : exWf.WF = true := by decide

/-- time-out: `a` hung, its dependent `b` is cancelled with it, `c` and `each` had completed -/
def tagsHang : List (Label × StepTags) :=
  [("a", ⟨.cancelled, []⟩), ("b", ⟨.cancelled, []⟩), ("c", ⟨.done, []⟩), ("each", ⟨.done, [.done, .done]⟩)]

example : Possible evalStd hangA .null true exWf tagsHang := by decide

/-- … and it is not possible without the time-out, nor with `a` reported as completed -/
example : ¬ Possible evalStd hangA .null false exWf tagsHang := by decide
example : ¬ Possible evalStd hangA .null true exWf
    [("a", ⟨.done, []⟩), ("b", ⟨.done, []⟩), ("c", ⟨.done, []⟩), ("each", ⟨.done, [.done, .done]⟩)] := by decide

/-- what the pass returns: two time-out Retries with a truthful `Ready/Wait` condition each, overall Retry(30) -/
example : (let r := collectF evalStd exWf (entriesF evalStd hangA .null true exWf tagsHang)
    (r.steps.map fun p => (p.1, reason p.2.res), reason r.overall,
     r.conditions.map fun c => (c.type, c.reason))) =
    ([("a", "Wait"), ("b", "Wait"), ("c", "Ready"), ("each", "Ready")], "Wait",
     [("Ready", "Wait"), ("Ready", "Wait"), ("Cc", "Ready"), ("Ce", "Ready"), ("Ready", "Wait")]) := by decide

/-- the hypothesis of `affected_step_is_error` holds for `a`, that of `dependents_not_run` for `b` -/
example : Affected evalStd hangA .null
    (depsDone (entriesF evalStd hangA .null true exWf tagsHang) []) exWf.steps[0] :=
  ⟨[], rfl, Or.inl ⟨[("parent", .null)], .obj [], rfl, by decide⟩⟩
example : "b" ∉ mayRunF evalStd hangA .null true exWf tagsHang := by decide

/-- a crash: `c` raised, the task group aborted `b` (schedule: `a` had completed, `b` had not); the forEach step
    swallowed its cancellation and reports its hung iteration as Retry — or is cancelled itself: both possible -/
example : Possible evalStd raiseC .null false exWf
    [("a", ⟨.done, []⟩), ("b", ⟨.cancelled, []⟩), ("c", ⟨.raised, []⟩), ("each", ⟨.done, [.done, .cancelled]⟩)] := by
  decide
example : Possible evalStd raiseC .null false exWf
    [("a", ⟨.done, []⟩), ("b", ⟨.done, []⟩), ("c", ⟨.raised, []⟩), ("each", ⟨.cancelled, [.done, .cancelled]⟩)] := by
  decide
example : (reason (collectF evalStd exWf (entriesF evalStd raiseC .null false exWf
    [("a", ⟨.done, []⟩), ("b", ⟨.cancelled, []⟩), ("c", ⟨.raised, []⟩),
     ("each", ⟨.done, [.done, .cancelled]⟩)])).overall) = "Wait" := by decide

/-- one ResourceFunction: a PATCH that raises after it took effect leaves the object patched, the answer is an
    escaping exception; the next fault-free evaluation answers Ok on the same object the never-faulted run ends on -/
example : (rfPass objMach {} (some (1, .raiseAfter)) .differing).st = .matching := by decide
example : (match (rfPass objMach {} (some (1, .raiseAfter)) .differing).ans with | .raised => true | _ => false) = true := by
  decide
example : iter objMach {} 1 (afterFaults objMach {} [some (1, .raiseAfter), some (0, .e500)] .differing) =
    iter objMach {} 1 .differing := by decide
/-- a 404 on the GET of an existing object makes the Function try to create it; the server answers 409 -/
example : (rfPass objMach {} (some (0, .e404)) .matching).calls = [.get, .post] := by decide
example : (rfPass objMach {} (some (0, .e404)) .matching).st = .matching := by decide

/-- any other 4xx, or a `ServerError` without a response, on the GET: Retry, nothing else is attempted -/
example : (rfPass objMach {} (some (0, .e4xx)) .matching).calls = [.get] := by decide
example : (rfPass objMach {} (some (0, .noResp)) .matching).calls = [.get] := by decide
example : (match (rfPass objMach { deleteIfExists := true } (some (0, .noResp)) .matching).ans with
    | .retry _ => true | _ => false) = true := by decide
/-- the believable 404 (`Believable`): a `deleteIfExists` Function told "404" on its GET answers Ok although the
    object is still there — no client could know better; the next fault-free evaluation deletes it, so recovery holds -/
example : (match (rfPass objMach { deleteIfExists := true } (some (0, .e404)) .matching).ans with
    | .ok _ => true | _ => false) = true := by decide
example : (rfPass objMach { deleteIfExists := true } (some (0, .e404)) .matching).st = .matching := by decide
example : iter objMach { deleteIfExists := true } 1
    (afterFaults objMach { deleteIfExists := true } [some (0, .e404)] .matching) = .absent := by decide

/-! a nested workflow built from the combinators: `a` creates an object; `each` (needs `a`) runs, for each of three
    items, a sub-workflow whose first step deletes-and-recreates an object and whose second step (needs the first)
    patches one -/

abbrev ExR := Option (RAns ObjState)

def exRv : ResView ObjState ExR where
  okv := fun r => match r with | some (.ok x) => some x | _ => none
  isErr := fun r => match r with | some (.ok _) | none => false | _ => true
  gated := none

private theorem exRv_ans (a : RAns ObjState) (h : exRv.isErr (some a) = false) : ∃ seen, a = .ok seen := by
  cases a with
  | ok s => exact ⟨s, rfl⟩
  | _ => cases h

def exLeaf (X : Type) (policy : Policy) : Stepper X ObjState ExR ObjState :=
  rfStepper (fun _ _ => objMach) (fun _ _ => { policy := policy }) (rfK { policy := policy }) (fun _ _ a => some a)

private theorem exLeaf_built (X : Type) (policy : Policy) : Built exRv (exLeaf X policy) :=
  .rf _ _ _ _ (fun _ _ => objMach_converges) (fun _ _ _ => rfl) (fun _ _ => Nat.le_refl _) (fun _ _ a h => exRv_ans a h)

def exInner : GSys (List ObjState) ObjState ExR where
  n := 2
  S := fun _ => ObjState
  deps := fun i => if i = 1 then [0] else []
  step := fun i => if i = 0 then exLeaf _ .recreate else exLeaf _ .patch
  rv := exRv

def exAgg : Unit → List ObjState → (Nat → ExR) → ExR := fun _ _ r =>
  if exRv.isErr (r 0) || exRv.isErr (r 1) then some .permFail else r 1

def exComb : Unit → List ObjState → List ExR → ExR := fun _ _ rs =>
  if rs.any exRv.isErr then some .permFail else some (.ok .matching)

def exS : Nat → Type
  | 0 => ObjState
  | _ + 1 => Nat → exInner.State

def exStep : (i : Nat) → Stepper Unit ObjState ExR (exS i)
  | 0 => exLeaf Unit .patch
  | _ + 1 => vecStepper (fun _ _ => [0, 1, 2]) (fun _ => dagStepper exInner (fun _ vs => vs) exAgg)
      (exInner.bound exInner.n) exComb

def exOuter : GSys Unit ObjState ExR where
  n := 2
  S := exS
  deps := fun i => if i = 1 then [0] else []
  step := exStep
  rv := exRv

private theorem exRv_ok_not_err (r : ExR) (v : ObjState) (h : exRv.okv r = some v) : exRv.isErr r = false := by
  rcases r with _ | a
  · rfl
  · cases a with
    | ok s => rfl
    | _ => simp [exRv] at h

private theorem exAgg_quiet (x : Unit) (vs : List ObjState) (r : Nat → ExR) (h : exRv.isErr (exAgg x vs r) = false)
    (j : Nat) (hj : j < 2) : exRv.isErr (r j) = false := by
  unfold exAgg at h
  split at h
  · cases h
  · next hc =>
    obtain ⟨h0, h1⟩ := Bool.or_eq_false_iff.1 (Bool.eq_false_iff.2 hc)
    obtain rfl | rfl : j = 0 ∨ j = 1 := by omega
    · exact h0
    · exact h1

private theorem exComb_quiet (x : Unit) (vs : List ObjState) (rs : List ExR) (h : exRv.isErr (exComb x vs rs) = false) :
    ∀ r ∈ rs, exRv.isErr r = false := by
  revert h
  fun_cases exComb x vs rs
  · intro h; cases h
  · next ha => intro _ r hr; exact Bool.eq_false_iff.2 (List.any_eq_false.1 (Bool.eq_false_iff.2 ha) r hr)

private theorem exInner_wf : ∀ i, ∀ d ∈ exInner.deps i, d < i := by
  intro i d hd
  change d ∈ (if i = 1 then [0] else []) at hd
  split at hd
  · next h => rw [List.mem_singleton.1 hd, h]; exact Nat.zero_lt_one
  · cases hd

/-- the convergence theorem's hypotheses are met by a two-step chain of ResourceFunctions over `objMach` -/
example : Hyps (rfSys 2 (fun i => if i = 1 then [0] else []) (fun _ _ => objMach) (fun _ _ => {}))
    (rfFaulty (fun _ _ => objMach) (fun _ _ => {})) :=
  rf_dag_hyps 2 _ _ _ exInner_wf (fun _ _ => objMach_converges) (fun _ _ => by decide) (fun _ _ => rfl)

private theorem exOuter_built : ∀ i, Built exRv (exStep i)
  | 0 => exLeaf_built Unit .patch
  | _ + 1 => by
    refine .vec _ _ _ _ (fun _ => ?_) (fun _ => Nat.le_refl _) exComb_quiet
    refine .dag exInner _ _ rfl exInner_wf rfl exRv_ok_not_err ?_ exAgg_quiet
    intro i
    show Built exRv (if i = 0 then exLeaf _ .recreate else exLeaf _ .patch)
    split
    · exact exLeaf_built _ .recreate
    · exact exLeaf_built _ .patch

/-- the pass bound of the nested example: the sub-workflow needs (2+1)+(1+1) = 5 passes, so `each` has k = 5 whatever
    the number of items, and the whole workflow (1+1)+(5+1) = 8 -/
example : exInner.bound exInner.n = 5 := rfl
example : exOuter.bound exOuter.n = 8 := rfl

/-- hence `workflow_recovers_built` applies to it: 8 fault-free passes after any faulty history -/
example {c0 c cN dN : exOuter.State} (hreach : GReach exOuter () c0 c)
    (hc : GCleanRun exOuter () 8 c cN) (hd : GCleanRun exOuter () 8 c0 dN) : ∀ i, i < 2 → cN i = dN i :=
  (workflow_recovers_built (sys := exOuter) exInner_wf rfl exRv_ok_not_err exOuter_built hreach (by decide) hc hd).1
/-- `koreo_nested_workflow_recovers` applies to the workflow of the first example (forEach included) with every
    Function a ResourceFunction over `objMach`, sub-workflows allowed to depth 1: its hypotheses hold -/
example : GHyps (ofWorkflow evalStd
      (tgtAt evalStd (fun _ => rfLeaf (fun _ => objMach) (fun _ => {}) (fun x _ => x)) 2 4 [] 1) (kAt 2 4 1) exWf) :=
  have htgt := tgtAt_ok evalStd (fun _ => rfLeaf (fun _ => objMach) (fun _ => {}) (fun x _ => x)) 2 4 []
    (fun _ => (koreo_rf_leaf _ _ _ (fun _ => objMach_converges) (fun _ _ => rfl)).1)
    (fun _ => Nat.le_refl _) (fun _ _ h => nomatch h) 1
  ofWorkflow_hyps evalStd _ _ exWf (by decide) (fun t => (htgt t).1) (fun t => (htgt t).2)
end example_

end Koreo.C09
