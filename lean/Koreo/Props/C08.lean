/-
  C08 — Payloads are clean: no directives, truthful last-applied, owners preserved.
  Property theorems only; helper lemmas are in `Koreo/Lemmas/Payload.lean`.
  Models: `Koreo.strip` (Koreo/Directives.lean), `Koreo/Payload.lean` (`prepareForApi`,
  `updatedOwnerRefs`, `ownerReffed`), `Koreo/ResourceFn.lean` (`createPayload`, `patchPayload`,
  `patchView`, `reconcile`), `Koreo.mergePatch` (the server's PATCH), `Koreo/Gen/RfDefaults.lean`
  (regenerated).  The patch branch is the one that does not send the target's own
  `metadata.ownerReferences` (koreo-core fa30b95).

  JSON text is abstract: `enc` stands for `json.dumps`, and the theorems hold for every `enc`
  that some `dec` undoes.
-/
import Koreo.Lemmas.Payload
import Koreo.Gen.RfDefaults

namespace Koreo.C08
open Koreo JVal Koreo.Identity Koreo.Payload Koreo.ResourceFn

/-! ## the constants are the source's -/

theorem extraction_ok : Koreo.Gen.RfDefaults.extractionOk = true := by decide

/-- `KOREO_DIRECTIVE_KEYS` of constants.py is exactly the set `strip` removes -/
theorem directive_keys_match_source (k : String) :
    k ∈ Gen.RfDefaults.directiveKeys ↔ isDirective k = true := by
  -- the same three keys, listed in another order
  have h : Gen.RfDefaults.directiveKeys.Perm directiveKeys := by decide +kernel
  rw [h.mem_iff, isDirective, List.contains_iff_mem]

theorem last_applied_key_matches_source : Gen.RfDefaults.lastAppliedAnnotation = lastApplied := rfl

/-! ## no directive key survives, at any depth or list position -/

/-- `_strip_koreo_directives` leaves no directive key anywhere: inside maps, inside list items,
    at every depth (mutual induction over values / lists / bindings) -/
theorem strip_no_directives (v : JVal) : noDirectiveKey (strip v) = true := Rf.strip_noDir v

theorem stripL_no_directives (xs : List JVal) : noDirectiveKeyL (stripL xs) = true := Rf.stripL_noDir xs

/-- … and removes nothing else: a value without directive keys is left exactly as it is -/
theorem strip_only_directives (v : JVal) (h : noDirectiveKey v = true) : strip v = v := Rf.strip_id_of_noDir v h

theorem strip_idempotent (v : JVal) : strip (strip v) = strip v :=
  Rf.strip_id_of_noDir _ (Rf.strip_noDir v)

/-- the payload `_prepare_for_api` hands to kr8s has no directive key (the annotation text is a
    string; its content is `strip o`, see `annotation_truthful`) -/
theorem payload_no_directives (enc : JVal → String) (o p : JVal) (h : prepareForApi enc o = some p) :
    noDirectiveKey p = true := Rf.prepareForApi_noDir h

/-- every body a reconcile sends — POST or PATCH, whatever the template, overlays, create overlay,
    owner, live object and comparator — is free of directive keys at every depth -/
theorem request_body_no_directives (enc : JVal → String) (defNs : String) (cmp : JVal → JVal → Bool) (pp : Bool)
    (rf : Rf) (owner : Owner) (stored : Option JVal) (req : Request) (b : JVal)
    (h : (reconcile enc defNs cmp pp rf owner stored).request = some req) (hb : req.body = some b) :
    noDirectiveKey b = true := by
  cases hm : req.method with
  | post =>
    obtain ⟨view, p, _, hp, rfl⟩ := hm ▸ Rf.request_cases h
    obtain ⟨_, _, _, _, hp⟩ := Rf.createPayload_spec hp
    cases hb
    exact Rf.prepareForApi_noDir hp
  | patch =>
    obtain ⟨live, e, p, n, _, _, hp, _, rfl⟩ := hm ▸ Rf.request_cases h
    obtain ⟨_, _, hp⟩ := Rf.patchPayload_spec hp
    cases hb
    exact Rf.prepareForApi_noDir hp
  | delete =>
    obtain ⟨live, n, _, _, rfl⟩ := hm ▸ Rf.request_cases h
    cases hb

/-! ## the last-applied annotation is truthful -/

/-- The annotation decodes to exactly the stripped object (it is dumped *before* the annotation
    is added) — for every target … -/
theorem annotation_decodes_to_stripped (enc : JVal → String) (dec : String → Option JVal)
    (hrt : ∀ v, dec (enc v) = some v) (o p : JVal) (h : prepareForApi enc o = some p) :
    (annotationOf p).bind dec = some (strip o) := by
  rw [Rf.annotationOf_prepareForApi h]
  exact hrt _

/-- … and the payload without the annotation is that same object — up to only the empty
    `metadata` / `annotations` containers created to hold it.  (Hypothesis: the target does not
    itself set Koreo's bookkeeping annotation; see `own_last_applied_is_overwritten`.) -/
theorem annotation_truthful (enc : JVal → String) (dec : String → Option JVal) (hrt : ∀ v, dec (enc v) = some v)
    (o p : JVal) (h : prepareForApi enc o = some p) (hl : LacksLastApplied o) :
    (annotationOf p).bind dec = some (strip o) ∧ HolderEq (removeAnnotation p) (strip o) :=
  ⟨annotation_decodes_to_stripped enc dec hrt o p h, Rf.removeAnnotation_prepareForApi h hl⟩

def ownAnnotationTarget : JVal :=
  .obj [("metadata", .obj [("annotations", .obj [(lastApplied, .str "mine"), ("keep", .str "k")])]), ("spec", .int 1)]

/-- A target that sets the bookkeeping annotation itself has it overwritten: the dumped
    object still carries the target's value, the payload minus the annotation does not (a corner
    outside the property's intent; the generators do not produce it) -/
theorem own_last_applied_is_overwritten :
    ((prepareForApi (fun _ => "dump") ownAnnotationTarget).map fun p =>
        ((metaKey "annotations" (removeAnnotation p)).bind (getKey lastApplied)).isSome) = some false ∧
    ((metaKey "annotations" (strip ownAnnotationTarget)).bind (getKey lastApplied)).isSome = true := by
  decide +kernel

/-- What is POSTed is exactly the payload whose annotation was computed: kr8s (constructor
    namespace, `raw`'s kind/apiVersion) changes nothing, because the forced overlay has already put
    apiConfig's namespace — given for a namespaced or a cluster-scoped kind alike — kind and
    apiVersion into the payload BEFORE it was dumped.  So `annotation_truthful` speaks about the
    object as sent. -/
theorem create_body_is_the_recorded_payload (enc : JVal → String) (defNs : String) (cmp : JVal → JVal → Bool)
    (pp : Bool) (rf : Rf) (owner : Owner) (stored : Option JVal) (req : Request)
    (h : (reconcile enc defNs cmp pp rf owner stored).request = some req) (hm : req.method = .post) :
    ∃ view p, createPayload enc (forced rf.target) view rf.createOv (rf.owned && owner.ns == rf.ns) owner.ref = some p ∧
      req.body = some p := by
  obtain ⟨view, p, _, hp, rfl⟩ := hm ▸ Rf.request_cases h
  exact ⟨view, p, hp, rfl⟩

/-- A created object carries a reference with the parent's uid whenever the function is owning
    and parent and object share a namespace … -/
theorem create_owner_if (enc : JVal → String) (defNs : String) (cmp : JVal → JVal → Bool) (pp : Bool)
    (rf : Rf) (owner : Owner) (stored : Option JVal) (req : Request) (s : String)
    (h : (reconcile enc defNs cmp pp rf owner stored).request = some req) (hm : req.method = .post)
    (hu : uidOf owner.ref = .str s) (hown : rf.owned = true ∧ owner.ns = rf.ns) :
    ∃ b, req.body = some b ∧ hasUid (.str s) (ownerRefsOf b) = true := by
  obtain ⟨view, p, _, hp, rfl⟩ := hm ▸ Rf.request_cases h
  exact ⟨p, rfl, (Rf.createPayload_owner hu hp).1 (by simp [hown.1, hown.2])⟩

/-- … and — when the target (after create.overlay) does not itself list the parent — only then:
    `ownerRef ∈ created.ownerReferences ↔ owned ∧ ownerNs = ns` -/
theorem create_owner_iff (enc : JVal → String) (defNs : String) (cmp : JVal → JVal → Bool) (pp : Bool)
    (rf : Rf) (owner : Owner) (stored : Option JVal) (req : Request) (s : String)
    (h : (reconcile enc defNs cmp pp rf owner stored).request = some req) (hm : req.method = .post)
    (hu : uidOf owner.ref = .str s)
    (hT : ∀ view v, materialise (forced rf.target) rf.tmpl rf.steps = some view →
        applyCreateOv rf.createOv view = some v →
        hasUid (.str s) (ownerRefsOf (deepOverlay v (forced rf.target))) = false) :
    ∃ b, req.body = some b ∧
      (hasUid (.str s) (ownerRefsOf b) = true ↔ (rf.owned = true ∧ owner.ns = rf.ns)) := by
  obtain ⟨view, p, hv, hp, rfl⟩ := hm ▸ Rf.request_cases h
  refine ⟨p, rfl, ?_⟩
  rw [(Rf.createPayload_owner hu hp).2 (fun v hv' => hT view v hv hv')]
  simp

/-- what the cluster holds after the PATCH of a reconcile, as far as owner references go:
    either the live list with ours appended (we should own it and are not on it), or — whatever
    the target says about ownerReferences — exactly the live list -/
theorem patch_result_refs (enc : JVal → String) (defNs : String) (cmp : JVal → JVal → Bool) (pp : Bool)
    (rf : Rf) (owner : Owner) (stored : JVal) (req : Request)
    (h : (reconcile enc defNs cmp pp rf owner (some stored)).request = some req) (hm : req.method = .patch)
    (hU : ∀ e, materialise (forced rf.target) rf.tmpl rf.steps = some e → Rf.Uniq2 e) :
    ∃ b live, req.body = some b ∧ krLoaded rf.api stored rf.ns = some live ∧
      (((rf.owned = true ∧ owner.ns = rf.ns) ∧ ownerReffed live owner.ref = false) →
        ownerRefsOf (mergePatch stored b) = stripL (ownerRefsOf stored) ++ [strip owner.ref]) ∧
      (¬((rf.owned = true ∧ owner.ns = rf.ns) ∧ ownerReffed live owner.ref = false) →
        ownerRefsOf (mergePatch stored b) = ownerRefsOf stored) := by
  obtain ⟨live, e, p, n, hl, he, hp, _, rfl⟩ := hm ▸ Rf.request_cases h
  rw [Rf.loadedOf_some] at hl
  have hrefs := Rf.patch_merged_refs stored (hU e he) hp
  simp only [Bool.and_eq_true, beq_iff_eq, Rf.ownerRefsOf_krLoaded hl] at hrefs
  exact ⟨p, live, rfl, hl, fun hc => by rw [hrefs, if_pos hc], fun hc => by rw [hrefs, if_neg hc]⟩

/-- A patch adds the parent's reference — under the same condition as a create — when the live
    object lacks it: afterwards the cluster's list is the live list followed by ours. -/
theorem patch_adds_owner_when_missing (enc : JVal → String) (defNs : String) (cmp : JVal → JVal → Bool) (pp : Bool)
    (rf : Rf) (owner : Owner) (stored : JVal) (req : Request) (s : String)
    (h : (reconcile enc defNs cmp pp rf owner (some stored)).request = some req) (hm : req.method = .patch)
    (hu : uidOf owner.ref = .str s)
    (hU : ∀ e, materialise (forced rf.target) rf.tmpl rf.steps = some e → Rf.Uniq2 e)
    (hown : rf.owned = true ∧ owner.ns = rf.ns)
    (hmiss : ∀ live, krLoaded rf.api stored rf.ns = some live → ownerReffed live owner.ref = false) :
    ∃ b, req.body = some b ∧
      ownerRefsOf (mergePatch stored b) = stripL (ownerRefsOf stored) ++ [strip owner.ref] ∧
      hasUid (.str s) (ownerRefsOf (mergePatch stored b)) = true := by
  obtain ⟨b, live, hb, hl, hA, _⟩ := patch_result_refs enc defNs cmp pp rf owner stored req h hm hU
  have := hA ⟨hown, hmiss live hl⟩
  refine ⟨b, hb, this, ?_⟩
  rw [this, Rf.hasUid_append, Rf.hasUid_self (by rw [Rf.uidOf_strip, hu]; rfl), Bool.or_true]

/-- Owner references already on the live object are never dropped by a patch — for EVERY target,
    including one that itself specifies `metadata.ownerReferences` (the patch branch does not send
    the target's list: koreo-core fa30b95).
    (`hclean`: live references carry no Koreo directive key — the patch re-sends stripped copies;
    `hU`: map keys are distinct, as in any Python dict.) -/
theorem patch_preserves_live_owners (enc : JVal → String) (defNs : String) (cmp : JVal → JVal → Bool)
    (pp : Bool) (rf : Rf) (owner : Owner) (stored : JVal) (req : Request) (s : String)
    (h : (reconcile enc defNs cmp pp rf owner (some stored)).request = some req) (hm : req.method = .patch)
    (hu : uidOf owner.ref = .str s)
    (hU : ∀ e, materialise (forced rf.target) rf.tmpl rf.steps = some e → Rf.Uniq2 e)
    (hclean : noDirectiveKeyL (ownerRefsOf stored) = true) :
    ∃ b, req.body = some b ∧ ∀ r ∈ ownerRefsOf stored, r ∈ ownerRefsOf (mergePatch stored b) := by
  obtain ⟨b, live, hb, hl, hA, hB⟩ := patch_result_refs enc defNs cmp pp rf owner stored req h hm hU
  refine ⟨b, hb, ?_⟩
  by_cases hc : (rf.owned = true ∧ owner.ns = rf.ns) ∧ ownerReffed live owner.ref = false
  · rw [hA hc, Rf.stripL_id_of_noDir _ hclean]
    exact fun r hr => List.mem_append_left _ hr
  · rw [hB hc]
    exact fun r hr => hr

/-- … and a patch never *removes or reorders* anything either: when it does not add ours, the
    cluster's list is exactly the live list -/
theorem patch_leaves_owner_list_alone (enc : JVal → String) (defNs : String) (cmp : JVal → JVal → Bool)
    (pp : Bool) (rf : Rf) (owner : Owner) (stored : JVal) (req : Request) (s : String)
    (h : (reconcile enc defNs cmp pp rf owner (some stored)).request = some req) (hm : req.method = .patch)
    (hu : uidOf owner.ref = .str s)
    (hU : ∀ e, materialise (forced rf.target) rf.tmpl rf.steps = some e → Rf.Uniq2 e)
    (hno : ¬(rf.owned = true ∧ owner.ns = rf.ns)) :
    ∃ b, req.body = some b ∧ ownerRefsOf (mergePatch stored b) = ownerRefsOf stored := by
  obtain ⟨b, live, hb, _, _, hB⟩ := patch_result_refs enc defNs cmp pp rf owner stored req h hm hU
  exact ⟨b, hb, hB (fun hc => hno hc.1)⟩

/-! ### the witness corpus/C08/target_owner_refs.json -/

section f7
def f7Parent : JVal := .obj [("kind", .str "Trigger"), ("name", .str "parent"), ("uid", .str "uid-parent")]
def f7Other : JVal := .obj [("kind", .str "ConfigMap"), ("name", .str "someone-else"), ("uid", .str "uid-other")]
def f7Pinned : JVal := .obj [("kind", .str "Deployment"), ("name", .str "wanted"), ("uid", .str "uid-wanted")]
/-- a target that itself lists an owner -/
def f7Template : JVal :=
  .obj [("metadata", .obj [("ownerReferences", .arr [f7Pinned])]), ("spec", .obj [("a", .int 1)])]
def f7Rf : Rf :=
  { api := ⟨"verif.test/v1", "Widget", "widgets", true⟩, name := "obj", ns := some "ns1", readonly := false,
    owned := true, createEnabled := true, deleteIfExists := false, policy := .patch,
    tmpl := f7Template, steps := [], createOv := none }
def f7Owner : Owner := ⟨some "ns1", f7Parent⟩
/-- the live object: owned by the parent and by someone else, drifted in `spec` -/
def f7Stored : JVal :=
  .obj [("apiVersion", .str "verif.test/v1"), ("kind", .str "Widget"),
        ("metadata", .obj [("name", .str "obj"), ("namespace", .str "ns1"),
                           ("ownerReferences", .arr [f7Parent, f7Other])]),
        ("spec", .obj [("a", .int 2)])]

/-- Both live references are still there after the PATCH, and the target's own list is not applied
    to an existing object (a patch that sent the target's list would replace the live one: parent
    and third party gone). -/
example :
    (((reconcile (fun _ => "") "default" (fun _ _ => false) true f7Rf f7Owner (some f7Stored)).request.bind
        fun r => r.body).map fun b =>
      (hasUid (.str "uid-parent") (ownerRefsOf (mergePatch f7Stored b)),
       hasUid (.str "uid-other") (ownerRefsOf (mergePatch f7Stored b)),
       hasUid (.str "uid-wanted") (ownerRefsOf (mergePatch f7Stored b)),
       (metaKey "ownerReferences" b).isSome)) = some (true, true, false, false) := by
  decide +kernel

/-- on create the target's own list *is* applied, with ours added -/
example :
    (((reconcile (fun _ => "") "default" (fun _ _ => false) true f7Rf f7Owner none).request.bind
        fun r => r.body).map fun b =>
      (hasUid (.str "uid-parent") (ownerRefsOf b), hasUid (.str "uid-wanted") (ownerRefsOf b))) =
      some (true, true) := by
  decide +kernel
end f7

/-! ### a lost creation race: absent at the load, somebody else's object there when the POST arrives -/

/-- One reconcile is one request.  When the load found nothing that request is a POST (or nothing),
    so if a competitor has created the object in the meantime — whatever it looks like, whatever
    owners it lists — the server answers 409 and the competitor's object is exactly as it was:
    no PATCH with the create payload (whose `ownerReferences` list knows nothing of the live one and
    would replace it) follows within the reconcile.  The next reconcile loads the object and is then
    subject to `patch_preserves_live_owners`. -/
theorem lost_creation_race_leaves_winner_alone (enc : JVal → String) (defNs : String)
    (cmp : JVal → JVal → Bool) (pp : Bool) (rf : Rf) (owner : Owner) (theirs : JVal) :
    Rf.serverAfter (some theirs) (reconcile enc defNs cmp pp rf owner none).request = some theirs := by
  cases h : (reconcile enc defNs cmp pp rf owner none).request with
  | none => rfl
  | some req =>
    have hm := Rf.absent_request_is_post h
    simp [Rf.serverAfter, hm]

/-- … in particular every owner reference the winner carries is still there, in place -/
theorem lost_creation_race_keeps_winner_owners (enc : JVal → String) (defNs : String)
    (cmp : JVal → JVal → Bool) (pp : Bool) (rf : Rf) (owner : Owner) (theirs : JVal) :
    (Rf.serverAfter (some theirs) (reconcile enc defNs cmp pp rf owner none).request).map ownerRefsOf =
      some (ownerRefsOf theirs) := by
  rw [lost_creation_race_leaves_winner_alone]
  rfl

/-- the two reconciles of a lost race on the F7 function: the first (nothing loaded, the
    competitor's object — owned by someone else — arrives before the POST) leaves it alone, the
    second (it is loaded now) adopts it by a PATCH that keeps the competitor's owner and adds ours;
    and `serverAfter` is not vacuous: the same POST against a cluster that is still empty creates -/
example :
    let theirs : JVal :=
      .obj [("apiVersion", .str "verif.test/v1"), ("kind", .str "Widget"),
            ("metadata", .obj [("name", .str "obj"), ("namespace", .str "ns1"), ("ownerReferences", .arr [f7Other])]),
            ("spec", .obj [("a", .int 2)])]
    let run (stored : Option JVal) := reconcile (fun _ => "") "default" (fun _ _ => false) true f7Rf f7Owner stored
    let after1 := Rf.serverAfter (some theirs) (run none).request
    let after2 := Rf.serverAfter after1 (run after1).request
    (run none).action = .create ∧
    (after1.map fun o => (hasUid (.str "uid-other") (ownerRefsOf o), hasUid (.str "uid-parent") (ownerRefsOf o)))
      = some (true, false) ∧
    (run after1).action = .patch ∧
    (after2.map fun o => (hasUid (.str "uid-other") (ownerRefsOf o), hasUid (.str "uid-parent") (ownerRefsOf o)))
      = some (true, true) ∧
    ((Rf.serverAfter none (run none).request).map fun o => hasUid (.str "uid-parent") (ownerRefsOf o)) = some true := by
  decide +kernel

/-! ## instances that meet the hypotheses -/

section examples
def dirty : JVal :=
  .obj [("spec", .obj [("x-koreo-compare-as-set", .arr [.str "items"]),
                       ("items", .arr [.obj [("x-koreo-compare-as-map", .obj []), ("n", .int 1)], .int 2])]),
        ("x-koreo-compare-last-applied", .arr [])]

/-- directives at the top, inside a map and inside a list item are all removed, the rest stays -/
example : noDirectiveKey dirty = false ∧ noDirectiveKey (strip dirty) = true ∧
    getKey "spec" (strip dirty) = some (.obj [("items", .arr [.obj [("n", .int 1)], .int 2])]) :=
  ⟨by decide +kernel, by decide +kernel, by rfl⟩

/-- `annotation_truthful`'s hypotheses are met by a payload that is actually produced -/
example : LacksLastApplied dirty ∧ (prepareForApi (fun _ => "dump") dirty).isSome = true := by
  refine ⟨by rfl, by decide +kernel⟩

/-- a patch that adds the owner: live object without references, owning function, same namespace -/
example :
    (((reconcile (fun _ => "") "default" (fun _ _ => true) true
        { f7Rf with tmpl := .obj [("spec", .obj [("a", .int 1)])] } f7Owner
        (some (.obj [("metadata", .obj [("name", .str "obj"), ("ownerReferences", .arr [f7Other])])]))).request.bind
      fun r => r.body).map fun b => (ownerRefsOf b).length) = some 2 := by decide +kernel
/-- directives on maps inside lists that sit directly inside lists (any nesting) are removed too -/
example :
    noDirectiveKey (strip (.arr [.arr [.obj [("x-koreo-compare-as-set", .arr []), ("n", .int 1)],
                                        .arr [.arr [.obj [("x-koreo-compare-as-map", .obj []), ("m", .int 2)]]]], .int 3])) = true ∧
    strip (.arr [.arr [.obj [("x-koreo-compare-as-set", .arr []), ("n", .int 1)]]]) = .arr [.arr [.obj [("n", .int 1)]]] :=
  ⟨by decide +kernel, by rfl⟩

/-- a reference with the parent's kind and name but ANOTHER uid (an earlier incarnation of the
    parent) does not count as the parent's: `ownerReffed` says no, and the patch adds ours after it
    (`updatedOwnerRefs` and `ownerReffed` both decide by uid) -/
example :
    let stale : JVal := .obj [("kind", .str "Trigger"), ("name", .str "parent"), ("uid", .str "uid-previous")]
    let stored : JVal := .obj [("metadata", .obj [("name", .str "obj"), ("ownerReferences", .arr [stale])])]
    ownerReffed stored f7Parent = false ∧
    (((reconcile (fun _ => "") "default" (fun _ _ => true) true
        { f7Rf with tmpl := .obj [("spec", .obj [("a", .int 1)])] } f7Owner (some stored)).request.bind
      fun r => r.body).map fun b =>
        (hasUid (.str "uid-parent") (ownerRefsOf (mergePatch stored b)),
         hasUid (.str "uid-previous") (ownerRefsOf (mergePatch stored b)))) = some (true, true) := by
  decide +kernel
end examples

end Koreo.C08
