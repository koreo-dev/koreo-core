/-
  C04 — ResourceFunction reaches a fixpoint: no mutation once the target is met.
  Property theorems only; the lemmas are in `Koreo/Lemmas/Compare.lean` (the comparator and its specification,
  binding by binding and key by key), `CompareSpec.lean` (soundness), `ComparePayload.lean` (the payload meets its
  target, also after a merge-patch), `Reconcile45.lean` (the model's writes, the results of a pass),
  `TargetViews.lean` (writes at one key, create view, owner-reference view, owner check).
  Models: `Koreo/Compare.lean` (validate.py, as repaired by fixes/F9-compare-as-map.diff and
  fixes/F6-typed-set.diff), `Koreo/Reconcile45.lean` (reconcile/__init__.py: `reconcile_krm_resource`,
  `_create_api_resource`, `_extract_last_applied`, `_prepare_for_api`, `_validate_owner_reffed`,
  `_updated_owner_refs`; prepare.py: `_prepare_update`), `Koreo/MergePatch.lean` (the API server's PATCH).

  `Meets t live la` is the property's "the live object contains every field of the target with an
  equal value" (spec relation, written independently of the comparator; keys compared against the
  last-applied tree by directive are read from `la`).
-/
import Koreo.Lemmas.CompareSpec
import Koreo.Lemmas.TargetViews

namespace Koreo.C04
open Koreo Koreo.JVal Koreo.Compare Koreo.R45 Koreo.Overlay

/-- the stated domain of the fixpoint clauses: directives well formed, maps with distinct keys,
    no explicit nulls, and the target does not itself set koreo's last-applied annotation -/
structure TargetOk (t : JVal) : Prop where
  wf : DirectivesWF t
  nodup : NoDupKeys t
  nonulls : NoNulls t
  annFree : annFree t = true
  /-- the target has a `metadata` map (the forced overlay makes one) that does not set
      `ownerReferences` — that key is C08's and is never patched from the target (fix F7) -/
  ownerFree : ownerRefsFree t = true

/-- extra keys at any depth, status, bookkeeping, reordered / duplicated set members, reordered keyed
    lists with extra members: none of it is reported (no hypothesis on `live` beyond `Meets`) -/
theorem meets_implies_match (t live la : JVal) (hw : DirectivesWF t) (hm : Meets t live la) :
    validateMatch t live la false = .ok :=
  vm_of_meets t live la hw hm

/-- a pass over an object that meets the target (and carries the owner reference where ownership
    applies) sends nothing, leaves the cluster as it is and hands the live object on to
    postconditions / return value -/
theorem no_mutation_at_target (c : Cfg) (t live la : JVal) (hw : DirectivesWF t)
    (hla : extractLastApplied c.codec live = some la) (hm : Meets t live la)
    (ho : ownerFixOf c live = some .none) :
    pass c t (some live) = [⟨some live, .okLive live, []⟩] :=
  passPresent_ok ho hla (meets_implies_match t live la hw hm)

/-- … in particular when the parent's reference really is among the live owner references, whatever
    other owners (before or after it) the object has, and when the function does not own at all -/
theorem no_mutation_at_target_co_owned (c : Cfg) (t live la : JVal) (hw : DirectivesWF t)
    (hla : extractLastApplied c.codec live = some la) (hm : Meets t live la)
    (ho : refPresent c live = true ∨ c.shouldOwn = false) :
    pass c t (some live) = [⟨some live, .okLive live, []⟩] :=
  no_mutation_at_target c t live la hw hla hm (ho.elim (ownerFixOf_present c live) (ownerFixOf_not_owned live))

/-- the delay a mutating pass has to report: the create delay when the object was absent, the
    update policy's delay otherwise -/
def configuredDelay (c : Cfg) (cluster : Option JVal) : Option JVal :=
  match cluster with
  | none => some c.createDelay
  | some _ =>
    match c.policy with
    | .patch d => some d
    | .recreate d => some d
    | .never => none

/-- any possible result of a pass that sent a request or changed the cluster is a Retry with the
    configured delay — never Ok, PermFail or an exception -/
theorem mutation_returns_retry (c : Cfg) (t : JVal) (cluster : Option JVal) (r : PassResult)
    (hr : r ∈ pass c t cluster) (hmut : r.reqs ≠ [] ∨ r.cluster ≠ cluster) :
    ∃ d, configuredDelay c cluster = some d ∧ r.outcome = .retry d := by
  cases cluster with
  | none =>
    rcases mem_passAbsent (show r ∈ passAbsent c from hr) with rfl | rfl | ⟨body, rfl⟩
    · simp at hmut
    · simp at hmut
    · exact ⟨_, rfl, rfl⟩
  | some live =>
    rcases mem_passPresent (show r ∈ passPresent c t live from hr) with rfl | rfl | ⟨fix, rfl⟩
    · simp [raisedAt] at hmut
    · simp [unchanged] at hmut
    · obtain ⟨d, hp, ho⟩ := correct_mutation hmut
      exact ⟨d, by rcases hp with hp | hp <;> simp [configuredDelay, hp], ho⟩

/-- when the load of the object is answered with an error the pass makes no write at all — whether the
    object meets the target, has drifted, or does not exist — and reports Retry with the load delay -/
theorem load_failure_no_mutation (cluster : Option JVal) :
    ∀ r ∈ passLoadFailed cluster, r.reqs = [] ∧ r.cluster = cluster ∧ r.outcome = .retry (.int loadRetryDelay) := by
  intro r hr
  simp only [passLoadFailed, List.mem_singleton] at hr
  subst hr; exact ⟨rfl, rfl, rfl⟩

/-- merge-patching the payload into *any* live object gives an object that meets the target, whose
    last-applied annotation reads back as the payload — and that payload is a well-shaped last-applied
    tree for the target (no separate hypothesis about the annotation's shape) -/
theorem patch_reaches_target (c : Codec) (t : JVal) (h : TargetOk t) (hc : c.reads (strip t)) :
    ∃ body, prepareForApi c t = some body ∧ LaShaped t (strip t) ∧ ∀ live,
      Meets t (mergePatch live body) (strip t) ∧
      extractLastApplied c (mergePatch live body) = some (strip t) := by
  obtain ⟨body, hb⟩ := prepareForApi_target c t h.annFree
  exact ⟨body, hb, laOk_strip_self t h.wf h.nodup,
    view_patch_facts c t t body h.nodup h.nonulls h.annFree h.nodup (meets_strip_self t h.wf h.nodup) hb hc⟩

/-- the same at the level of a pass with update policy `patch` whose comparison reported differences
    (owner reference in place): exactly one PATCH, and the resulting object meets the target -/
theorem patch_pass_reaches_target (c : Cfg) (t live : JVal) (d : JVal) (h : TargetOk t)
    (hc : c.codec.reads (strip t)) (hp : c.policy = .patch d) :
    ∃ body, correct c .none t live = ⟨some (mergePatch live body), .retry d, [.patch body]⟩ ∧
      Meets t (mergePatch live body) (strip t) := by
  obtain ⟨body, hb, _, hall⟩ := patch_reaches_target c.codec t h hc
  exact ⟨body, correct_patch live hp h.ownerFree hb, (hall live).1⟩

/-- the create pass itself: exactly one POST of the prepared create view, Retry with the create delay -/
theorem create_pass (c : Cfg) (t body : JVal) (he : c.createEnabled = true)
    (hb : prepareForApi c.codec c.createView = some body) :
    pass c t none = [⟨some body, .retry c.createDelay, [.post body]⟩] :=
  passAbsent_create he hb

/-- creation with a create overlay that does not contradict the target (`noContradict`, a decidable
    predicate on the written overlay: at target-specified paths it only descends into the target's maps or
    writes a scalar equal to the target's; elsewhere it may add anything), owner references written
    where ownership applies: one POST, Retry(create delay), the stored object meets the target and its
    annotation reads back as the stripped view -/
theorem create_reaches_target (c : Cfg) (t body : JVal) (ov : List (String × OSpec JVal)) (refs : Option JVal)
    (h : TargetOk t) (hov : WFO ov) (hnc : noContradict t ov = true)
    (hv : createViewOf t ov refs = some c.createView) (he : c.createEnabled = true)
    (hb : prepareForApi c.codec c.createView = some body) (hc : c.codec.reads (strip c.createView)) :
    pass c t none = [⟨some body, .retry c.createDelay, [.post body]⟩] ∧
      Meets t body (strip c.createView) ∧
      extractLastApplied c.codec body = some (strip c.createView) := by
  have hm := create_view_meets t c.createView ov refs h.wf h.nodup h.ownerFree hov hnc hv
  exact ⟨create_pass c t body he hb, view_body_meets c.codec t c.createView body h.nodup h.annFree hm hb,
    view_body_extract c.codec c.createView body hb hc⟩

/-- a function that may not create (`create.enabled: false`) never writes for an absent object: it waits -/
theorem no_create_when_disabled (c : Cfg) (t : JVal) (he : c.createEnabled = false) :
    pass c t none = [⟨none, .retry (.int loadRetryDelay), []⟩] :=
  passAbsent_disabled he

/-- without a create overlay the created object is the payload, which meets the target -/
theorem create_plain (c : Cfg) (t : JVal) (h : TargetOk t) (hv : c.createView = t) :
    ∃ body, prepareForApi c.codec c.createView = some body ∧ Meets t body (strip t) := by
  obtain ⟨body, hb⟩ := prepareForApi_target c.codec t h.annFree
  exact ⟨body, by rw [hv]; exact hb,
    view_body_meets c.codec t t body h.nodup h.annFree (meets_strip_self t h.wf h.nodup) hb⟩

/-- target met, but the parent's reference is missing (`ownerFixOf` asks for `r` to be written):
    under update policy patch exactly one PATCH whose body is the payload of the target with those
    references, Retry with the patch delay -/
theorem owner_missing_patched (c : Cfg) (t live la r x body d : JVal) (hw : DirectivesWF t)
    (hla : extractLastApplied c.codec live = some la) (hm : Meets t live la)
    (ho : ownerFixOf c live = some (.refs r)) (hp : c.policy = .patch d)
    (hx : setOwnerRefs r t = some x) (hb : prepareForApi c.codec x = some body) :
    pass c t (some live) = [⟨some (mergePatch live body), .retry d, [.patch body]⟩] := by
  rw [← correct_patch_refs live hp hx hb]
  exact passPresent_ok ho hla (meets_implies_match t live la hw hm)

/-- what is written: the live references in their order plus the parent's — co-owners are preserved -/
theorem owner_fix_keeps_co_owners (c : Cfg) (live r : JVal) (ho : ownerFixOf c live = some (.refs r)) :
    r = .arr [c.ownerRef] ∨ ∃ xs, liveRefs live = some (.arr xs) ∧ r = .arr (xs ++ [c.ownerRef]) := by
  obtain ⟨-, ⟨-, hr⟩ | ⟨_, xs, -, hl, -, hr⟩⟩ := ownerFixOf_refs ho
  · exact Or.inl hr
  · exact Or.inr ⟨xs, hl, hr⟩

/-- the body of that PATCH exists, and merge-patched into *any* live object it gives an object that
    meets the target, whose annotation reads back, and whose owner references are exactly the written ones -/
theorem owner_fix_reaches_target (c : Codec) (t : JVal) (rs : List JVal) (h : TargetOk t)
    (hr : noDupB (.arr rs) = true) :
    ∃ x body, setOwnerRefs (.arr rs) t = some x ∧ prepareForApi c x = some body ∧
      (c.reads (strip x) → ∀ live,
        Meets t (mergePatch live body) (strip x) ∧
        extractLastApplied c (mergePatch live body) = some (strip x) ∧
        liveRefs (mergePatch live body) = some (.arr (stripL rs))) := by
  obtain ⟨x, hx, hxn, hxm⟩ := owner_view t (.arr rs) h.wf h.nodup h.ownerFree hr
  obtain ⟨body, hb⟩ := owner_view_prepares c t (.arr rs) x h.annFree hx
  refine ⟨x, body, hx, hb, fun hc live => ?_⟩
  obtain ⟨hm, hla⟩ := view_patch_facts c t x body h.nodup h.nonulls h.annFree hxn hxm hb hc live
  exact ⟨hm, hla, refs_set_by_owner_patch c t x body rs hx hxn hb live⟩

/-- afterwards the reference is present and the next pass mutates nothing -/
theorem owner_fix_then_quiet (c : Cfg) (t live : JVal) (ys : List JVal) (refkvs : List (String × JVal))
    (u : String) (h : TargetOk t) (href : c.ownerRef = .obj refkvs) (hys : allObj ys = true)
    (hu : lookup "uid" refkvs = some (.str u))
    (hr : noDupB (.arr (ys ++ [c.ownerRef])) = true) :
    ∃ x body, setOwnerRefs (.arr (ys ++ [c.ownerRef])) t = some x ∧ prepareForApi c.codec x = some body ∧
      (c.codec.reads (strip x) →
        refPresent c (mergePatch live body) = true ∧
        pass c t (some (mergePatch live body)) =
          [⟨some (mergePatch live body), .okLive (mergePatch live body), []⟩]) := by
  obtain ⟨x, body, hx, hb, hall⟩ := owner_fix_reaches_target c.codec t (ys ++ [c.ownerRef]) h hr
  refine ⟨x, body, hx, hb, fun hc => ?_⟩
  obtain ⟨hm, hla, hrefs⟩ := hall hc live
  have huid : pyEq (uidOf (stripO refkvs)) (uidOf refkvs) = true := by
    simp [uidOf, lookup_stripO (k := "uid") (by decide +kernel), hu, strip, pyEq]
  have hpres : refPresent c (mergePatch live body) = true := by
    rw [refPresent_iff href hrefs, stripL_append, href]
    exact scanRefs_append _ _ huid _ (by rw [allObj_stripL]; exact hys)
  exact ⟨hpres, no_mutation_at_target_co_owned c t _ _ h.wf hla hm (Or.inl hpres)⟩

/-- after a patch the next pass (same target) mutates nothing: the patch leaves the live owner
    references alone, so a reference that was in place (co-owners or not) still is -/
theorem no_update_loop (c : Cfg) (t live : JVal) (d : JVal) (h : TargetOk t)
    (hc : c.codec.reads (strip t)) (hp : c.policy = .patch d)
    (ho : refPresent c live = true ∨ c.shouldOwn = false) :
    ∀ r, r = correct c .none t live →
      ∃ live', r.cluster = some live' ∧ pass c t r.cluster = [⟨some live', .okLive live', []⟩] := by
  intro r hr
  obtain ⟨body, hb, _, hall⟩ := patch_reaches_target c.codec t h hc
  subst hr
  rw [correct_patch live hp h.ownerFree hb]
  exact ⟨_, rfl, no_mutation_at_target_co_owned c t _ _ h.wf (hall live).2 (hall live).1 <| ho.imp_left
    (refPresent_congr c (refs_kept_by_target_patch c.codec t body h.nodup h.ownerFree hb live)).trans⟩

/-- after a create with a non-contradicting create overlay the next pass mutates nothing -/
theorem no_update_loop_after_create (c : Cfg) (t body : JVal) (ov : List (String × OSpec JVal))
    (refs : Option JVal) (h : TargetOk t) (hov : WFO ov) (hnc : noContradict t ov = true)
    (hv : createViewOf t ov refs = some c.createView) (he : c.createEnabled = true)
    (hb : prepareForApi c.codec c.createView = some body) (hc : c.codec.reads (strip c.createView))
    (ho : ownerFixOf c body = some .none) :
    ∀ r ∈ pass c t none, pass c t r.cluster = [⟨some body, .okLive body, []⟩] := by
  intro r hr
  obtain ⟨hpass, hm, hla⟩ := create_reaches_target c t body ov refs h hov hnc hv he hb hc
  rw [hpass, List.mem_singleton] at hr
  subst hr
  exact no_mutation_at_target c t body _ h.wf hla hm ho

/-! ## where ownership applies: one decision for the create site and the compare site

  `shouldOwnOf own ownerNs ns` is what both `_create_api_resource` (write the parent's reference into the
  create body) and `reconcile_krm_resource` (`should_own`: require it on the live object) evaluate.  It holds
  exactly when the function owns its resource and parent and object share their scope — in particular for
  a cluster-scoped object of a cluster-scoped parent (`none`, `none`).  The create theorems take the
  references written at create (`refs`) and `Cfg.shouldOwn` from this one value; a create site that
  decides otherwise falsifies `ho` of `no_update_loop_after_create`. -/

theorem should_own_same_scope (ns : Option String) : shouldOwnOf true ns ns = true := by
  simp [shouldOwnOf]

theorem should_own_iff (own : Bool) (ownerNs ns : Option String) :
    shouldOwnOf own ownerNs ns = true ↔ own = true ∧ ownerNs = ns := by
  simp [shouldOwnOf]

/-- where ownership does not apply nothing about owner references is ever asked of the live object -/
theorem not_owned_no_owner_fix (c : Cfg) (live : JVal) (own : Bool) (ownerNs ns : Option String)
    (hs : c.shouldOwn = shouldOwnOf own ownerNs ns) (hne : own = false ∨ ownerNs ≠ ns) :
    ownerFixOf c live = some .none := by
  have : c.shouldOwn = false := by
    rw [hs, Bool.eq_false_iff]
    intro h
    obtain ⟨h1, h2⟩ := (should_own_iff own ownerNs ns).mp h
    rcases hne with e | e
    · rw [e] at h1; cases h1
    · exact e h2
  exact ownerFixOf_not_owned live this

example : shouldOwnOf true none none = true := by decide
example : shouldOwnOf true (some "ns1") none = false := by decide
example : shouldOwnOf true none (some "ns1") = false := by decide

/-! ## the forced kind/name overlay never brings an explicit null into the target

  `NoNulls` is the stated domain of the fixpoint clauses because a null member can never be met: the
  API server does not store it and a merge-patch with it deletes the key.  The part of every target that
  koreo itself supplies (`_forced_overlay`, C12's `forcedOverlay`) respects that domain for namespaced and
  for cluster-scoped kinds alike: without a namespace the `namespace` member is absent, not null. -/

theorem forced_overlay_no_nulls (apiVersion kind name : String) (ns : Option String) :
    noNullsB (.obj (forcedOverlay apiVersion kind name ns)) = true := by
  cases ns <;> rfl

/-- … and a target that did carry `namespace: null` could not be met by any object the server stores
    (an object without nulls): the key is either missing or holds something that is not null -/
theorem null_member_never_met (tkvs lkvs : List (String × JVal)) (la : JVal) (k : String)
    (hk : isDirective k = false) (hn : keysNoDup tkvs = true) (ht : lookup k tkvs = some .null)
    (hp : plainKey tkvs k = true) (hl : noNullsB (.obj lkvs) = true) :
    meetsB .full (.obj tkvs) (.obj lkvs) la = false := by
  cases h : meetsB .full (.obj tkvs) (.obj lkvs) la with
  | false => rfl
  | true =>
    rw [meetsB.eq_1, Bool.and_eq_true] at h
    have hkey := meetsO_iff_forall.mp h.2 (k, .null) (lookup_mem ht)
    obtain ⟨cv, hcv, hm⟩ := (keyMeets_plain_iff hk hp).mp hkey
    rw [meetsB_scalar rfl] at hm
    have hcvn : cv = .null := by
      cases cv with
      | null => rfl
      | _ => cases hm
    subst hcvn
    rw [noNullsB.eq_3] at hl
    have : noNullsB .null = true := noNullsO_iff.mp hl _ (lookup_mem hcv)
    cases this

/-! ## non-vacuity: a concrete target with every directive, a decorated live object, a codec -/

def exTarget : JVal := .obj [
  ("metadata", .obj [("labels", .obj [("app", .str "web")])]),
  ("spec", .obj [
    (compareAsSet, .arr [.str "zones"]),
    (compareAsMap, .obj [("ports", .arr [.str "name"])]),
    (compareLastApplied, .arr [.str "seed"]),
    ("zones", .arr [.str "a", .int 1]),
    ("ports", .arr [.obj [("name", .str "http"), ("port", .int 80)], .obj [("name", .str "dns"), ("port", .int 53)]]),
    ("seed", .str "s1"),
    ("replicas", .int 2), ("on", .bool false), ("args", .arr [.str "x", .flt 12])])]

/-- decorated: extra keys, status, reordered set and keyed lists with an extra member, `1.0` for `1`,
    a different value under the last-applied-directed key -/
def exLive : JVal := .obj [
  ("status", .obj [("ready", .bool true)]),
  ("spec", .obj [
    ("replicas", .flt 16), ("on", .bool false), ("args", .arr [.str "x", .flt 12]),
    ("seed", .str "rotated"),
    ("zones", .arr [.flt 8, .str "a", .str "a"]),
    ("ports", .arr [.obj [("name", .str "extra"), ("port", .int 1)],
                    .obj [("name", .str "dns"), ("port", .int 53), ("protocol", .str "UDP")],
                    .obj [("name", .str "http"), ("port", .int 80)]]),
    ("added", .null)]),
  ("metadata", .obj [("labels", .obj [("app", .str "web"), ("x", .str "y")]), ("uid", .str "u")])]

/-- a codec that reads back the one text the example needs -/
def exCodec : Codec where
  dumps _ := "T"
  loads s := if s = "T" then some (strip exTarget) else none

example : TargetOk exTarget :=
  ⟨by unfold DirectivesWF; decide +kernel, by unfold NoDupKeys; decide +kernel, by unfold NoNulls; decide +kernel,
    by decide +kernel, by decide +kernel⟩
example : exCodec.reads (strip exTarget) := ⟨by decide, rfl⟩
example : Meets exTarget exLive (strip exTarget) := by decide +kernel
example : validateMatch exTarget exLive (strip exTarget) false = .ok := by decide +kernel
/-- a create overlay that adds keys (a map the target does not have, a new key inside `spec`), descends
    into the target's `metadata.labels` and re-writes a scalar with the target's own value -/
def exCreateOverlay : List (String × OSpec JVal) := [
  ("createOnly", .leaf (.str "z")),
  ("spec", .node [("seededBy", .leaf (.obj [("who", .str "create")])), ("replicas", .leaf (.flt 16))]),
  ("metadata", .node [("labels", .node [("tier", .leaf (.str "web"))])])]

example : noContradict exTarget exCreateOverlay = true := by decide +kernel
/-- … while one that changes a target-specified leaf is rejected -/
example : noContradict exTarget [("spec", .node [("replicas", .leaf (.int 3))])] = false := by decide

def exOwner : JVal := .obj [("kind", .str "Trigger"), ("name", .str "parent"), ("uid", .str "uid-parent")]
def exForeign (u : String) : JVal := .obj [("kind", .str "Other"), ("uid", .str u)]
def exCfg : Cfg := { codec := exCodec, policy := .patch (.int 7), shouldOwn := true, ownerRef := exOwner,
                     createEnabled := true, createDelay := .int 11, createView := exTarget }
def liveWithRefs (refs : JVal) : JVal :=
  .obj [("metadata", .obj [("name", .str "w"), ("ownerReferences", refs)])]

/-- co-owned (the parent's reference between two foreign ones): nothing to write -/
example : refPresent exCfg (liveWithRefs (.arr [exForeign "a", exOwner, exForeign "b"])) = true := by decide
/-- only foreign owners: the live references plus the parent's have to be written -/
example : (match ownerFixOf exCfg (liveWithRefs (.arr [exForeign "a"])) with
    | some (.refs (.arr xs)) => xs.length == 2 && scanRefs (.str "a") (xs.take 1) == some true &&
        scanRefs (.str "uid-parent") (xs.drop 1) == some true
    | _ => false) = true := by decide
/-- the parent was re-created under the same name: its old entry (same kind and name, another uid) is not
    ours — the check is by uid, so the live references plus the parent's current one are written -/
example : (match ownerFixOf exCfg (liveWithRefs (.arr [.obj [("kind", .str "Trigger"), ("name", .str "parent"),
      ("uid", .str "uid-before-recreation")]])) with
    | some (.refs (.arr xs)) => xs.length == 2 && scanRefs (.str "uid-parent") (xs.drop 1) == some true
    | _ => false) = true := by decide
/-- a member that is not a map before any match: `_validate_owner_reffed` raises -/
example : (ownerFixOf exCfg (liveWithRefs (.arr [.str "junk", exOwner]))).isNone = true := by decide

/-- and the hypotheses are not trivially true: a changed leaf does not meet -/
example : ¬ Meets exTarget (.obj [("spec", .obj [("replicas", .int 3)])]) .null := by decide

end Koreo.C04
