/-
  C10 — Expression failures surface as PermFail, never as crashes or leaked errors.
  Property theorems only; helper lemmas are in `Koreo/Lemmas/EvalScan.lean`.
  Model: `Koreo/EvalScan.lean` (hand transcription of cel/evaluation.py, the three reconcile
  modules' data flow, `_deep_overlay`, `convert_bools`, `_strip_koreo_directives`, `_prepare_for_api`).
  `Koreo/Gen/EvalSites.lean` is regenerated from the source on every run.

  celpy is an oracle `eval : Site → EvalResult` (raised | a value tree that may contain error
  objects as values, list items or map keys at any depth).  Every theorem below holds for every
  oracle, every Function structure, every index tree and every (error-free) environment.
-/
import Koreo.Lemmas.EvalScan
import Koreo.Gen.EvalSites

namespace Koreo.C10
open Koreo.EvalScan Koreo.EvalScan.ETree Koreo.EvalScan.Run

/-! ## the model's sites and scan shape are those of the source -/

theorem extraction_ok : Koreo.Gen.EvalSites.extractionOk = true := by decide

/-- the source calls `evaluate` / `evaluate_predicates` / `evaluate_overlay` at exactly the places
    the model's `Site` type lists (a new evaluation site breaks this) -/
theorem sites_match_source : Koreo.Gen.EvalSites.sites = sourceTable := rfl

/-- each row of the table is a constructor of `Site` … -/
theorem table_is_modelled : representativeSites.map Site.source = sourceTable.map some := rfl

/-- … and every site the models can evaluate is a row of the table -/
theorem every_site_in_table (s : Site) (t : String × String × String) (h : s.source = some t) :
    t ∈ sourceTable := by
  obtain ⟨_, ht, e⟩ := List.mem_map.mp (table_is_modelled ▸ source_of_representative h)
  exact Option.some.inj e ▸ ht

/-- probed on the tree under test: `check_for_celevalerror` finds an error object exactly where the
    model's `scan` does (as map value, map key, list / ListType / tuple item, nested, clean values),
    and each of the three evaluators answers a raising program (CELEvalError with or without a
    dumpable tree — F10 —, ValueError, KeyError, RuntimeError), an error value and a nested error
    object with a PermFail that names the location, exactly as `site` / `evalPredicates` /
    `evalOverlay` do.  The syntactic scan, where it recognises the source's shape, does not
    contradict: a catch-all exists and celpy's `tree_dump` is not reachable unguarded from an except-arm -/
theorem scan_shape_matches_source :
    Koreo.Gen.EvalSites.scanProbe = scanProbeTable ∧
    Koreo.Gen.EvalSites.evaluatorProbe = evaluatorProbeTable ∧
    Koreo.Gen.EvalSites.catchAll ≠ "no" ∧
    Koreo.Gen.EvalSites.handlersCannotRaise ≠ "no" := ⟨rfl, rfl, by decide, by decide⟩

/-! ## the scan is complete -/

/-- the scan reports nothing exactly when there is no error object anywhere in the tree —
    as a value, as a list item or as a map key, at any depth -/
theorem scan_complete (t : ETree) : scan t = false ↔ ErrFree t := scan_false_iff

/-- … equivalently, it reports an error exactly when one is reachable by some path -/
theorem scan_finds (t : ETree) : scan t = true ↔ HasErr t := scan_iff t

/-! ## the tree functions do not create error objects -/

theorem applier_preserves_errfree (base : ETree) (index : List (String × Index)) (values : List ETree)
    (hb : ErrFree base) (hv : ∀ v ∈ values, ErrFree v) : ErrFree (applier base index values) :=
  applier_errFree hb index hv

theorem deepOverlay_preserves_errfree (resource overlay : ETree) (hr : ErrFree resource)
    (ho : ErrFree overlay) : ErrFree (deepOverlay resource overlay) :=
  deepOverlay_errFree resource hr overlay ho

theorem convert_preserves_errfree (t : ETree) (h : ErrFree t) : ErrFree (convert t) :=
  convert_errFree t h

theorem strip_preserves_errfree (t : ETree) (h : ErrFree t) : ErrFree (stripE t) :=
  stripE_errFree t h

/-- on JSON values the strip of this model is the one shared with C08 -/
theorem strip_is_shared_model (j : JVal) : stripE (embed j) = embed (strip j) := stripE_embed j

theorem prepareForApi_preserves_errfree (render : ETree → String) (t p : ETree) (h : ErrFree t)
    (hp : prepareForApi render t = some p) : ErrFree p :=
  prepareForApi_errFree render t h p hp

/-- `json.dumps` inside `_prepare_for_api` cannot raise because of an error object: on an
    error-free tree the only way to `none` is a `metadata`/`annotations` that is not a map -/
theorem prepareForApi_dump_never_fails (t : ETree) (h : ErrFree t) :
    scan (stripE t) = false :=
  scan_false_iff.mpr (stripE_errFree t h)

/-- everything the API server or a cache hands to Koreo is JSON, hence error-free -/
theorem json_is_errfree (j : JVal) : ErrFree (embed j) := embed_errFree j

/-- the re-scans after `_overlay(…, forced_overlay)` can never fire: what they look at is
    already error-free (so removing them changes no behaviour) -/
theorem rescan_after_forced_overlay_redundant (s : Site) (t forced : ETree) (ht : ErrFree t)
    (hf : ErrFree forced) : overlayForced s t forced = pure (deepOverlay t forced) :=
  overlayForced_of_errFree s (deepOverlay_errFree t ht forced hf)

/-! ## … but the scan at the `resource` site is not: the forced overlay hides what it overwrites -/

/-- the forced name/kind overlay writes `apiVersion` and `kind` whatever stood there: the merged object
    does not depend on the template's value at these keys -/
theorem forced_overlay_overwrites_identity_keys (env : Env) (name : String) (ns : Option String)
    (k : String) (hk : k = "apiVersion" ∨ k = "kind") (x : ETree) (kvs : List (EKey × ETree)) :
    deepOverlay (.obj (blankAt (.str k) x kvs)) (forcedOverlay env name ns)
      = deepOverlay (.obj kvs) (forcedOverlay env name ns) := by
  simp only [forcedOverlay, deepOverlay, kvsOf]
  congr 1
  rcases hk with rfl | rfl
  · exact deepOverlayO_blankAt (ov := .str env.apiVersion) nofun (by simp [lookup]) x _
  · exact deepOverlayO_blankAt (ov := .str env.kind) nofun (by simp [lookup]) x _

/-- … so the scan after the forced overlay is no substitute for the scan at the `resource` site: a template
    whose only error objects sit at (or below) `apiVersion` / `kind` has an error object, and yet
    `_overlay(…, forced_overlay)` + `check_for_celevalerror` lets it through as if nothing had failed -/
theorem rescan_after_forced_overlay_is_no_substitute (env : Env) (name : String) (ns : Option String) (s : Site)
    (k : String) (hk : k = "apiVersion" ∨ k = "kind") (e v : ETree) (he : HasErr e)
    (kvs : List (EKey × ETree)) (hclean : ErrFree (.obj kvs)) (hl : lookup (.str k) kvs = some v) :
    HasErr (.obj (blankAt (.str k) e kvs)) ∧
    overlayForced s (.obj (blankAt (.str k) e kvs)) (forcedOverlay env name ns)
      = pure (deepOverlay (.obj kvs) (forcedOverlay env name ns)) := by
  refine ⟨blankAt_hasErr hl he, ?_⟩
  have hsame := forced_overlay_overwrites_identity_keys env name ns k hk e kvs
  rw [← hsame]
  exact overlayForced_of_errFree s (hsame ▸ deepOverlay_errFree _ hclean _ (forcedOverlay_errFree env name ns))

/-- the code (and the model) do scan at the site: such a template is a PermFail at `spec.resource`,
    before anything is merged or sent -/
theorem masked_template_error_is_permfail (eval : Oracle) (loc : Site → Site) (f : RF) (env : Env)
    (forced : ETree) (hf : f.template = .inline true)
    (k : EKey) (e v : ETree) (he : HasErr e) (kvs : List (EKey × ETree)) (hl : lookup k kvs = some v)
    (heval : eval (loc .resource) = .val (.obj (blankAt k e kvs))) :
    (constructTemplate eval loc f env forced).res = .error (.permFail (loc .resource) .evalError) ∧
    (constructTemplate eval loc f env forced).outs = [] := by
  have hbad : (eval (loc .resource)).bad = true := by
    rw [heval]; exact (scan_iff _).mpr (blankAt_hasErr hl he)
  unfold constructTemplate
  rw [hf]
  simp only [siteOpt, if_true]
  rw [site_of_bad hbad]
  exact ⟨rfl, rfl⟩

/-- same for `metadata.name`, `metadata.namespace` (concrete shape, any `e`) and a `metadata` that is an error object -/
theorem forced_overlay_masks_metadata (env : Env) (name n : String) (e spec labels : ETree)
    (hs : ErrFree spec) (hlab : ErrFree labels) :
    scan (deepOverlay (.obj [(.str "metadata", .obj [(.str "name", e), (.str "labels", labels)]), (.str "spec", spec)])
        (forcedOverlay env name (some n))) = false ∧
    scan (deepOverlay (.obj [(.str "metadata", .obj [(.str "labels", labels), (.str "namespace", e)]), (.str "spec", spec)])
        (forcedOverlay env name (some n))) = false ∧
    scan (deepOverlay (.obj [(.str "metadata", .err), (.str "spec", spec)]) (forcedOverlay env name (some n))) = false := by
  have h1 := scan_false_iff.mpr hs
  have h2 := scan_false_iff.mpr hlab
  simp [forcedOverlay, deepOverlay, deepOverlayO, kvsOf, ETree.insert, lookup, scan, scanO, h1, h2]

/-! ## every value that is returned, published or sent is error-free -/

/-- ValueFunction (as a step, or as an overlayRef on an error-free resource) -/
theorem vf_result_errfree (eval : Oracle) (interp : Interp) (loc : VfSite → Site) (f : VF)
    (base : Option ETree) (hb : ∀ b, base = some b → ErrFree b) (v : ETree)
    (h : (vfRun eval interp loc f base).res = .ok v) : ErrFree v :=
  (vfRun_sat eval interp loc f base hb).post v h

/-- every request body a ResourceFunction sends (POST, PATCH) is error-free -/
theorem rf_payload_errfree (eval : Oracle) (interp : Interp) (loc : Site → Site) (f : RF) (env : Env)
    (henv : env.Clean) : ∀ o ∈ (rfRun eval interp loc f env).outs, ErrFree o.2 :=
  (rfRun_sat eval interp loc f env henv).outs

theorem rf_return_errfree (eval : Oracle) (interp : Interp) (loc : Site → Site) (f : RF) (env : Env)
    (henv : env.Clean) (v : ETree) (h : (rfRun eval interp loc f env).res = .ok v) : ErrFree v :=
  (rfRun_sat eval interp loc f env henv).post v h

/-- the inputs handed to a step's Function (per forEach iteration), the requests of its
    ResourceFunction and its state contribution are error-free; so is the step's value -/
theorem step_inputs_errfree (eval : Oracle) (interp : Interp) (loc : Site → Site) (st : Step)
    (hl : st.logic.Clean) :
    (∀ o ∈ (stepRun eval interp loc st).outs, ErrFree o.2) ∧
    (∀ v, (stepRun eval interp loc st).res = .ok v → ErrFree v) :=
  (stepRun_spec eval interp loc st hl).2

/-- whole workflow: everything that leaves is error-free, every step value is error-free, and
    the published state (`state.update` over the steps) is error-free -/
theorem workflow_state_errfree (eval : Oracle) (interp : Interp) (steps : List Step)
    (hl : ∀ st ∈ steps, st.logic.Clean) :
    ErrFree (publishedState (wfRun eval interp steps).outs) ∧
    (∀ o ∈ (wfRun eval interp steps).outs, ErrFree o.2) ∧
    (∃ rs, (wfRun eval interp steps).res = .ok rs ∧ ∀ v, Except.ok v ∈ rs → ErrFree v) := by
  have h := wfRun_done eval interp steps hl
  exact ⟨publishedState_errFree _ h.outs, h.outs, h.ok⟩

/-! ## a failing expression gives PermFail with its location — at every site -/

/-- the log of a run is made of the oracle's answers: an entry `(s, r)` means the expression at
    `s` was evaluated and celpy answered `r` -/
theorem log_is_faithful (eval : Oracle) (interp : Interp) (loc : Site → Site) (f : RF) (env : Env)
    (henv : env.Clean) : ∀ e ∈ (rfRun eval interp loc f env).evals, e.2 = eval e.1 :=
  (rfRun_sat eval interp loc f env henv).faithful

/-- ValueFunction: whichever of its sites is evaluated and fails (raised, or an error object
    anywhere in its value), the outcome is a PermFail located at that site -/
theorem failing_expr_gives_permfail_with_location_vf (eval : Oracle) (interp : Interp)
    (loc : VfSite → Site) (f : VF) (base : Option ETree) (hb : ∀ b, base = some b → ErrFree b) :
    ∀ e ∈ (vfRun eval interp loc f base).evals, e.2 = eval e.1 ∧
      (e.2.bad = true → (vfRun eval interp loc f base).res = .error (.permFail e.1 .evalError)) :=
  have h := vfRun_sat eval interp loc f base hb
  fun e he => ⟨h.faithful e he, h.located e he⟩

/-- ResourceFunction: preconditions, locals, apiConfig, template name, resource, each overlay,
    skipIf and overlayRef inputs, the sites of an overlayRef's ValueFunction, create overlay,
    postconditions, return -/
theorem failing_expr_gives_permfail_with_location (eval : Oracle) (interp : Interp)
    (loc : Site → Site) (f : RF) (env : Env) (henv : env.Clean) :
    ∀ e ∈ (rfRun eval interp loc f env).evals, e.2 = eval e.1 ∧
      (e.2.bad = true → (rfRun eval interp loc f env).res = .error (.permFail e.1 .evalError)) :=
  have h := rfRun_sat eval interp loc f env henv
  fun e he => ⟨h.faithful e he, h.located e he⟩

/-- a step without forEach (inputs, skipIf, switchOn and the Function's sites): same statement -/
theorem failing_expr_gives_permfail_with_location_logic (eval : Oracle) (interp : Interp)
    (loc : Site → Site) (inputs : ETree) (hin : ErrFree inputs) (l : Logic) (hl : l.Clean) :
    ∀ e ∈ (runLogic eval interp loc inputs l).evals,
      e.2.bad = true → (runLogic eval interp loc inputs l).res = .error (.permFail e.1 .evalError) :=
  (runLogic_sat eval interp loc inputs hin l hl).located

/-- a whole step, forEach included: a failing expression anywhere in the step's body (step inputs,
    skipIf, forEach.itemIn, switchOn, any site of any iteration) makes the step a PermFail that
    carries a location (with several failing iterations, the location of one of them) -/
theorem failing_expr_gives_permfail_step (eval : Oracle) (interp : Interp) (loc : Site → Site)
    (st : Step) (hl : st.logic.Clean) :
    ∀ e ∈ (stepBody eval interp loc st).evals, e.2.bad = true →
      ∃ l w, (stepRun eval interp loc st).res = .error (.permFail l w) :=
  (stepRun_spec eval interp loc st hl).1

/-- `state`: a failing state expression publishes nothing and leaves the step's outcome alone
    (the code reports it in `state_errors`) -/
theorem failing_state_publishes_nothing (eval : Oracle) (interp : Interp) (loc : Site → Site)
    (st : Step) (hbad : (eval (loc .state)).bad = true) :
    (stepRun eval interp loc st).outs = (stepBody eval interp loc st).outs ∧
    (stepRun eval interp loc st).res = (stepBody eval interp loc st).res := by
  refine ⟨?_, stepRun_res eval interp loc st⟩
  rw [stepRun_outs, stateOf_failure eval loc st hbad]
  cases (stepBody eval interp loc st).res <;> exact List.append_nil _

/-- no crash: a failing expression never ends in an uncaught exception -/
theorem failing_expr_never_crashes (eval : Oracle) (interp : Interp) (loc : Site → Site) (f : RF)
    (env : Env) (henv : env.Clean) (e : Site × EvalResult)
    (he : e ∈ (rfRun eval interp loc f env).evals) (hbad : e.2.bad = true) (what : String) :
    (rfRun eval interp loc f env).res ≠ .error (.crash what) := by
  rw [(rfRun_sat eval interp loc f env henv).located e he hbad]
  intro h; cases h

/-! ## non-vacuity: concrete runs -/

private def noInterp : Interp := fun _ => none
private def failure {α : Type} (r : Except Stop α) : Option Stop :=
  match r with | .error e => some e | .ok _ => none
private def leaf0 : List (String × Index) := [("v", .leaf 0), ("w", .node [("x", .leaf 1)])]
private def vf1 : VF := ⟨true, true, some leaf0⟩

/-- an error object deep inside the second overlay value (a list of maps) of `return` -/
private def evalDeep : Oracle
  | .vf .preconditions => .val (.arr [])
  | .vf .locals => .val (.obj [(.str "a", .int 1)])
  | .vf .returnValue => .val (.arr [.int 1, .arr [.obj [(.str "k", .arr [.int 2, .err])]]])
  | _ => .raised

example : failure (vfRun evalDeep noInterp .vf vf1 none).res = some (.permFail (.vf .returnValue) .evalError) := by
  decide

/-- an error object as a map key -/
private def evalKey : Oracle
  | .vf .preconditions => .val (.arr [])
  | .vf .locals => .val (.obj [(.str "a", .obj [(.err, .int 1)])])
  | _ => .raised

example : failure (vfRun evalKey noInterp .vf vf1 none).res = some (.permFail (.vf .locals) .evalError) := by
  decide

/-- everything evaluates: the value is produced (hypotheses of the error-freeness theorems are met) -/
private def evalFine : Oracle
  | .vf .preconditions => .val (.arr [])
  | .vf .locals => .val (.obj [(.str "a", .int 1)])
  | .vf .returnValue => .val (.arr [.int 1, .str "x"])
  | _ => .raised

example : ((vfRun evalFine noInterp .vf vf1 none).res.toOption.map scan) = some false := by decide

private def env1 : Env :=
  { live := none, templates := fun _ => none, ownerRef := .obj [(.str "uid", .str "u")],
    ownerSameNamespace := true, isMatch := fun _ _ => false, ownerReffed := false,
    apiVersion := "v1", kind := "ConfigMap", text := fun _ => "name", render := fun _ => "{}" }

private def rf1 : RF :=
  { hasPre := false, hasLocals := false, namespaced := true, readonly := false, deleteIfExists := false,
    owned := true, template := .inline true,
    overlays := [.inline false [("data", .node [("k", .leaf 0)])]],
    createEnabled := true, createOverlay := none, update := .patch, hasPost := false, hasReturn := true }

private def evalRf (overlayVal : ETree) : Oracle
  | .apiConfig => .val (.obj [(.str "name", .str "n"), (.str "namespace", .str "ns")])
  | .resource => .val (.obj [(.str "data", .obj [])])
  | .overlay 0 => .val (.arr [overlayVal])
  | _ => .raised

/-- a create: one POST goes out, its body passes the scan -/
example : ((rfRun (evalRf (.str "x")) noInterp id rf1 env1).outs.map fun o => (o.1, scan o.2)) = [(.post, false)] := by
  decide +kernel

/-- the same Function with an error object inside the overlay leaf: PermFail at that overlay, nothing sent -/
example : failure (rfRun (evalRf (.obj [(.str "deep", .err)])) noInterp id rf1 env1).res
      = some (.permFail (.overlay 0) .evalError) ∧
    (rfRun (evalRf (.obj [(.str "deep", .err)])) noInterp id rf1 env1).outs.length = 0 := by
  decide

/-! ### every site is reached by some run -/

private def vfFull : VF := ⟨true, true, some [("spec", .node [("fromVf", .leaf 0)])]⟩

private def rfFull : RF :=
  { hasPre := true, hasLocals := true, namespaced := true, readonly := false, deleteIfExists := false,
    owned := true, template := .ref,
    overlays := [.inline true [("spec", .node [("y", .leaf 0)])], .ref true true vfFull],
    createEnabled := true, createOverlay := some [("spec", .node [("c", .leaf 0)])], update := .patch,
    hasPost := true, hasReturn := true }

private def envAbsent : Env :=
  { live := none, templates := fun _ => some (.obj [(.str "spec", .obj [])]), ownerRef := .obj [(.str "uid", .str "u")],
    ownerSameNamespace := true, isMatch := fun _ _ => false, ownerReffed := false,
    apiVersion := "v1", kind := "K", text := fun _ => "name", render := fun _ => "{}" }

private def envMatch : Env := { envAbsent with live := some (.obj [(.str "spec", .obj [])]), isMatch := fun _ _ => true, ownerReffed := true }

private def evalAll : Oracle
  | .rfPre | .rfPost | .overlayRef _ .preconditions => .val (.arr [])
  | .rfLocals | .overlayRef _ .locals | .overlayInputs _ => .val (.obj [])
  | .apiConfig => .val (.obj [(.str "name", .str "n"), (.str "namespace", .str "ns")])
  | .templateName => .val (.str "tmpl")
  | .overlaySkipIf _ => .val (.bool false)
  | .overlay _ | .overlayRef _ .returnValue | .createOverlay => .val (.arr [.int 1])
  | .rfReturn => .val (.obj [(.str "v", .int 1)])
  | _ => .raised

/-- a create run reaches every site up to the create overlay … -/
example : (rfRun evalAll noInterp id rfFull envAbsent).evals.map (·.1) =
    [.rfPre, .rfLocals, .apiConfig, .templateName, .overlaySkipIf 0, .overlay 0, .overlaySkipIf 1,
     .overlayInputs 1, .overlayRef 1 .preconditions, .overlayRef 1 .locals, .overlayRef 1 .returnValue,
     .createOverlay] := by decide +kernel

/-- … and a run on a matching object reaches postconditions and return -/
example : (rfRun evalAll noInterp id rfFull envMatch).evals.map (·.1) =
    [.rfPre, .rfLocals, .apiConfig, .templateName, .overlaySkipIf 0, .overlay 0, .overlaySkipIf 1,
     .overlayInputs 1, .overlayRef 1 .preconditions, .overlayRef 1 .locals, .overlayRef 1 .returnValue,
     .rfPost, .rfReturn] := by decide +kernel

private def stepFE : Step :=
  { deps := [], hasInputs := true, hasSkipIf := true, forEach := some "item",
    logic := .switch (fun _ => some (.vf ⟨false, false, some [("v", .leaf 0)]⟩)), hasState := true }

/-- the second iteration's return holds an error object: the step is a PermFail, all iterations ran,
    no state is evaluated -/
private def evalFE : Oracle
  | .stepInputs => .val (.obj [])
  | .stepSkipIf => .val (.bool false)
  | .forEach => .val (.arr [.int 1, .int 2, .int 3])
  | .iter _ .switchOn => .val (.str "a")
  | .iter 1 (.vf .returnValue) => .val (.arr [.obj [(.str "k", .err)]])
  | .iter _ (.vf .returnValue) => .val (.arr [.int 1])
  | .state => .val (.obj [(.str "s", .int 1)])
  | _ => .raised

example : failure (stepRun evalFE noInterp id stepFE).res = some (.permFail (.iter 1 (.vf .returnValue)) .evalError) ∧
    (stepRun evalFE noInterp id stepFE).evals.map (·.1) =
      [.stepInputs, .stepSkipIf, .forEach, .iter 0 .switchOn, .iter 0 (.vf .returnValue), .iter 1 .switchOn,
       .iter 1 (.vf .returnValue), .iter 2 .switchOn, .iter 2 (.vf .returnValue)] := by decide

/-- `{apiVersion: <error object>, spec: {}}` has an error object, and the forced overlay + re-scan alone would hand
    on `{apiVersion: "v1", spec: {}, kind: "K", metadata: {…}}`; the scan at the site makes it a PermFail -/
example :
    HasErr (.obj (blankAt (.str "apiVersion") .err [(.str "apiVersion", .str "x"), (.str "spec", .obj [])])) ∧
    overlayForced .resource (.obj (blankAt (.str "apiVersion") .err [(.str "apiVersion", .str "x"), (.str "spec", .obj [])]))
        (forcedOverlay envAbsent "n" (some "ns"))
      = pure (deepOverlay (.obj [(.str "apiVersion", .str "x"), (.str "spec", .obj [])]) (forcedOverlay envAbsent "n" (some "ns"))) :=
  rescan_after_forced_overlay_is_no_substitute envAbsent "n" (some "ns") .resource "apiVersion" (.inl rfl) .err (.str "x")
    HasErr.here _ (scan_false_iff.mp (by simp [scan, scanO])) (by simp [lookup])

end Koreo.C10
