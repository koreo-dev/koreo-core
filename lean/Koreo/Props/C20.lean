/-
  C20 — Preparing any definition never crashes; schema violations are rejected.
  Property theorems only; helper lemmas are in `Koreo/Lemmas/CelAstTotal.lean` and
  `Koreo/Lemmas/WorkflowPrep.lean`, the probe-table facts shared with C14 in `Koreo/Lemmas/CelTables.lean`.
  Models: `Koreo/CelAst.lean` (`extract_argument_structure` over lark trees, the name patterns),
  `Koreo/WorkflowPrep.lean` (`prepareK`: the schema gate; `overlayInputsCheck`: the input check of an
  `overlayRef`; `prepareApi`: kr8s' class registry; `retryDelay`; `switchLoop` / `loadLogicSwitch`: `refSwitch`) —
  REPAIRED sources (fixes F5, F12, F13).
  `Koreo/Gen/CelTables.lean` (celpy's grammar as lark compiled it, and what the real extractor,
  `prepare_workflow`, `_prepare_overlays` and the schema gate of the five `prepare_*` did on the
  probes) is regenerated on every run; the model's dispatch sets, the fate of each `raise` and the
  name patterns are tied to the source through those probes.

  Not exhibited by the model: Python-level exceptions inside the prepare bodies on
  schema-valid-but-odd specs (searched by harness/c20.py, not proved); C11's encoder totality.
-/
import Koreo.Lemmas.CelAstTotal
import Koreo.Lemmas.WorkflowPrep
import Koreo.Lemmas.CelTables

namespace Koreo.C20
open Koreo.CelAst Koreo.WorkflowPrep
open Koreo.Gen.CelTables (rules)

/-! ## the model agrees with the real code on a probed, complete fact table -/

theorem extraction_ok : Koreo.Gen.CelTables.extractionOk = true := by decide

/-- the model returns what the real `extract_argument_structure` returned on every probe tree (every node type at
    every position, every literal token type, every child count, the parsed odd receivers); see `Props/C14` -/
theorem extractor_probes_match_source :
    Koreo.Gen.CelTables.probes.all (fun p => probeAgrees p.1 p.2) = true := probes_agree

theorem probes_cover_every_position :
    probePositions.all (fun pos => allKinds.all fun k => Koreo.Gen.CelTables.probeCoverage.contains (pos, k)) = true :=
  probes_cover

/-- For every position the extractor inspects, every node kind celpy's grammar (regenerated) admits there is
    handled or skipped by the model's dispatch; the children it indexes exist. -/
theorem dispatch_complete : DispatchComplete rules modelDispatch = true := by decide +kernel

/-! ## the reference analysis is total on everything the grammar admits -/

/-- For **every** parse tree a grammar admits (any depth, any receiver of `.`, `[]`, calls), an
    extractor whose dispatch tables are complete for that grammar returns a key set: no
    `raise` statement is reached uncaught, no `children[i]` is out of range, no attribute of a
    `Token` is taken. -/
theorem extract_total {g : Grammar} {d : Dispatch} {t : Cel}
    (ht : GrammarTree g t) (hd : DispatchComplete g d = true) : ∃ ks, extractWith d t = .ok ks :=
  extractWith_total ht hd

/-- …in particular `extract_argument_structure` of the current source on every tree of the
    current celpy grammar -/
theorem extract_total_current {t : Cel} (ht : GrammarTree rules t) : ∃ ks, extract t = .ok ks :=
  extract_total ht dispatch_complete

/-- every subtree of a grammatical tree is grammatical, so the claim holds for each expression
    nested in a definition's expression as well -/
theorem subtree_grammatical {g : Grammar} {t s : Cel} (ht : GrammarTree g t) (hs : s ∈ t.subtrees) :
    GrammarTree g s :=
  subtrees_conf t ht s hs

/-- The pre-F5 dispatch `unrepairedDispatch` is not complete for celpy's grammar. -/
theorem unrepaired_incomplete : DispatchComplete rules unrepairedDispatch = false := by decide +kernel

open Cel in
/-- `(a).b` -/
def parenReceiver : Cel :=
  liftMember (member (memberDot (member (primary (paren (liftMember (var "a"))))) "b"))

/-- The pre-F5 dispatch `unrepairedDispatch` raises on the grammatical tree of `(a).b`, which the repaired one
    handles. -/
theorem unrepaired_raises_on_witness :
    GrammarTree rules parenReceiver ∧
    extractWith unrepairedDispatch parenReceiver = .error "UNKNOWN PRIMARY DATA TYPE" ∧
    extract parenReceiver = .ok [] :=
  ⟨confB_sound _ (by decide +kernel), by decide +kernel, by decide +kernel⟩

/-! ## the names `STEPS_NAME_PATTERN` extracts are strings -/

/-- the set the out-of-order message joins consists of strings -/
theorem step_deps_are_names (keys : List String) :
    (stepsNamesRaw keys) = (stepDeps keys).map some := by
  rw [stepsNamesRaw, stepDeps, List.map_filterMap, List.map_filterMap]
  exact congrArg (List.filterMap · keys) (funext stepsMatch_name)

/-- so `STEPS_NAME_PATTERN` never puts `None` into a dependency set -/
theorem steps_name_never_none (keys : List String) : none ∉ stepsNamesRaw keys := by
  rw [step_deps_are_names]
  intro h
  obtain ⟨_, _, h⟩ := List.mem_map.1 h
  cases h

/-! ## the optional group of `INPUTS_NAME_PATTERN`: a `None` name is reported, never raised -/

/-- for every probed pair (keys of a cached ValueFunction, inputs an `overlayRef` provides) the real
    `_prepare_overlays` reported exactly the missing names the model computes — `None` names included — and did
    not raise: ties `inputsMatch`, `missingInputs` and the way the message is built to the source by behaviour -/
theorem overlay_inputs_probes_match_source :
    Koreo.Gen.CelTables.overlayProbes.all (fun p => overlayProbeAgrees p.1 p.2.1 p.2.2) = true := by decide +kernel

/-- identifiers that merely start with `inputs` (and `inputs[".x"]`) match the pattern without a name -/
theorem inputs_name_can_be_none :
    inputsMatch "inputs2.zone" = some ⟨none⟩ ∧ inputsMatch "inputs..zone" = some ⟨none⟩ ∧
    inputsMatch "inputs.zone.id" = some ⟨some "zone"⟩ ∧ inputsMatch "steps.zone" = none := by decide +kernel

/-- a `None` name can never be provided: it is always among the missing inputs -/
theorem none_name_always_missing (keys provided : List String) (h : none ∈ neededInputs keys) :
    none ∈ missingInputs keys provided := by
  unfold missingInputs
  exact List.mem_filter.2 ⟨h, rfl⟩

/-- with the source's way of building the message the input check of an `overlayRef` never raises,
    whatever the ValueFunction's keys and the provided inputs are; a `None` name is printed as `"None"` -/
theorem overlay_inputs_check_total (keys provided : List String) :
    ∃ r, overlayInputsCheck modelJoinStyle keys provided = .ok r :=
  ⟨_, overlayInputsCheck_modelJoinStyle keys provided⟩

theorem none_name_message : (overlayInputsCheck modelJoinStyle ["inputs.x", "inputs2.zone"] ["y"]).toOption
    = some (some ["\"x\"", "\"None\""]) := by decide +kernel

/-- had the message been built with `sorted(…)` or by joining the raw names, it would raise as soon as a `None`
    name sits next to an ordinary missing one -/
theorem sorted_or_raw_join_would_raise :
    (overlayInputsCheck (.formatEach true) ["inputs.x", "inputs2.zone"] []).toOption = none ∧
    (overlayInputsCheck (.raw false) ["inputs2.zone"] []).toOption = none ∧
    (overlayInputsCheck (.formatEach true) ["inputs.x", "inputs.y"] []).toOption.isSome = true := by decide +kernel

/-! ## the schema gate comes first -/

/-- probed: three schema-violating specs of each of the five kinds were answered with `PermFail` while neither
    `celpy.Environment.compile` nor a cache lookup had been called -/
theorem schema_gate_first_probed :
    Koreo.Gen.CelTables.gateProbes.map (·.1) =
      ["ValueFunction", "ValueFunction", "ValueFunction", "ResourceFunction", "ResourceFunction", "ResourceFunction",
       "ResourceTemplate", "ResourceTemplate", "ResourceTemplate", "Workflow", "Workflow", "Workflow",
       "FunctionTest", "FunctionTest", "FunctionTest"] ∧
    Koreo.Gen.CelTables.gateProbes.all (·.2) = true := by decide +kernel

/-- a spec that violates the schema is answered with `PermFail` and nothing was compiled or
    looked up: validation is the only thing that happened -/
theorem invalid_spec_permfail_first {Spec : Type} (schemaValid : Spec → Bool)
    (body : Spec → List Ev × PrepR) (spec : Spec) (h : schemaValid spec = false) :
    prepareK schemaValid body spec = ([.validate], .permFail) :=
  prepareK_invalid h body

/-- whatever the spec, validation is the first event and the result is one of the three outcomes -/
theorem validate_always_first {Spec : Type} (schemaValid : Spec → Bool)
    (body : Spec → List Ev × PrepR) (spec : Spec) :
    (prepareK schemaValid body spec).1.head? = some .validate := by
  cases h : schemaValid spec with
  | false => rw [prepareK_invalid h]; rfl
  | true => rw [prepareK_valid h]; rfl

/-! ## a prepare never leaves the process unable to prepare (kr8s' class registry, fix F12) -/

/-- whatever `apiVersion` a ResourceFunction names, the registry stays one every later lookup can walk -/
theorem registry_stays_usable (reg : Registry) (av : String) (h : lookupOk reg = true) :
    lookupOk (prepareApi reg av).1 = true := by
  rw [prepareApi_eq]
  split
  next hok =>
    -- the class registered last has at most one slash, so `get_class` can unpack its version as well
    simp only [lookupOk, List.all_cons, Bool.and_eq_true]
    exact ⟨by simpa [unpackOk] using hok.2.1, h⟩
  next => exact h

/-- for every sequence of prepares in one process: none raises, and the registry is usable afterwards -/
theorem prepare_sequence_never_raises : ∀ (avs : List String) (reg : Registry), lookupOk reg = true →
    lookupOk (prepareApiSeq prepareApi reg avs).1 = true ∧ ApiR.raised ∉ (prepareApiSeq prepareApi reg avs).2
  | [], reg, h => ⟨h, by simp [prepareApiSeq]⟩
  | av :: rest, reg, h => by
    have h1 := registry_stays_usable reg av h
    obtain ⟨ih1, ih2⟩ := prepare_sequence_never_raises rest (prepareApi reg av).1 h1
    simp only [prepareApiSeq]
    refine ⟨ih1, ?_⟩
    simp only [List.mem_cons, not_or]
    refine ⟨?_, ih2⟩
    rw [prepareApi_eq]
    split <;> nofun

/-- …so an ordinary function prepared after any such sequence is prepared, not failed -/
theorem ordinary_prepare_after_any_sequence (avs : List String) (av : String)
    (hav : av ≠ "") (hs : slashes av ≤ 1) :
    (prepareApi (prepareApiSeq prepareApi [] avs).1 av).2 = .prepared := by
  have h := (prepare_sequence_never_raises avs [] rfl).1
  rw [prepareApi_eq, if_pos ⟨hav, hs, h⟩]

/-- before F12 one function with `apiVersion: a/b/c` made the next prepare raise -/
theorem unrepaired_registry_poisoned :
    (prepareApiSeq prepareApiOld [] ["a/b/c", "v1"]).2 = [.prepared, .raised] := by decide +kernel

/-- the retry delay of an expected outcome is a whole number or rejected — never an exception (fix F13) -/
theorem retry_delay_total (n : Option Int) : (∃ d, retryDelay n = some d) ∨ retryDelay n = none := by
  cases h : retryDelay n with
  | none => exact Or.inr rfl
  | some d => exact Or.inl ⟨d, rfl⟩

theorem retry_delay_integral_float : retryDelay (some 8) = some 1 ∧ retryDelay (some 20) = none := by decide

/-! ## `refSwitch`: any list of cases, any state of each case's function

`_load_logic_switch` keeps the loaded logics in a dict keyed by the `case` value (`dictSet`): a later entry with the
same `case` shadows an earlier one, whose outcome is then never part of the readiness check.  The `dynamic_input_keys`
are therefore read inside the loop, off the logics that loaded (`.fn`), never off an error outcome. -/

/-- a loaded function is what the cache holds as ready under that reference -/
theorem loadLogic_fn {env : Env} {r : Ref} {w : Bool} {ks : List String}
    (h : (loadLogic env r).2 = .fn w ks) : env r = .ready w ks :=
  Koreo.WorkflowPrep.loadLogic_fn h

/-- whatever the cases (duplicate `case` values, several defaults, any reference) and whatever the cache holds,
    every key the switch collects was read off a case whose function is cached as READY: a case whose function is
    missing or unhealthy — shadowed by a later entry or not — contributes nothing and nothing is read off its outcome -/
theorem switch_keys_only_from_ready_cases {env : Env} : ∀ (cases : List CaseSpec) (acc acc' : SwitchAcc),
    switchLoop env cases acc = some acc' →
    ∀ k ∈ acc'.keys, k ∈ acc.keys ∨
      ∃ c ∈ cases, ∃ w ks, env c.ref = .ready w ks ∧ (k ∈ ks ∨ ∃ k' ∈ ks, k = "inputs." ++ k') := by
  intro cases acc acc' h k hk
  rw [(switchLoop_eq h).2] at hk
  refine (List.mem_append.1 hk).imp_right fun hk => ?_
  obtain ⟨c, hc, hkc⟩ := List.mem_flatMap.1 hk
  obtain ⟨w, ks, hl, hks⟩ := mem_caseKeys hkc
  exact ⟨c, hc, w, ks, loadLogic_fn hl, hks⟩

/-- `_load_logic_switch` never raises: for every list of cases and every cache state it answers a LogicSwitch or an
    error outcome, provided the reference analysis of `switchOn` does not raise (which `extract_total_current` gives
    for every parse tree of the grammar) -/
theorem switch_load_never_raises (env : Env) (sw : SwitchSpec)
    (hx : ∀ t, sw.switchOn = .ast t → ∃ ks, extract t = .ok ks) :
    ∃ r, loadLogicSwitch env sw = .ok r := by
  rcases loadLogicSwitch_cases env sw with ⟨_, h⟩ | ⟨t, e, ht, he, _⟩ | ⟨_, _, _, _, res, l, h, _⟩
  · exact ⟨_, h⟩
  · obtain ⟨ks, hk⟩ := hx t ht
    rw [hk] at he; cases he
  · exact ⟨_, h⟩

/-- a cache that holds `fn-b` as a ready ValueFunction with one key and nothing else -/
def shadowEnv : Env := fun r => if r.name = "fn-b" then .ready false ["inputs.x"] else .missing

/-- two entries with the same `case`, the earlier one's function not cached, the later
    one's ready and default — the switch is prepared (the shadowed Retry is not in `logic_map`), with the keys of the
    ready function only -/
theorem shadowed_unready_case_prepares :
    (switchLoop shadowEnv [⟨"std", false, ⟨"ValueFunction", "fn-a"⟩⟩, ⟨"std", true, ⟨"ValueFunction", "fn-b"⟩⟩]
        ⟨[], [], none, ["parent.spec.flavour"]⟩).map
      (fun acc => (acc.keys, worstErr (acc.logicMap.map (·.2)), acc.logicMap.length, acc.resources))
      = some (["parent.spec.flavour", "inputs.x"], none, 1,
              [("ValueFunction", "fn-a"), ("ValueFunction", "fn-b")]) := by decide +kernel

open Cel in
/-- `inputs.x[!a]` -/
def oddIndex : Cel :=
  liftMember (member (memberIndex (member (memberDot (var "inputs") "x"))
    (expr1 (or1 (and1 (rel1 (add1 (mul1 (unaryNot (unaryMember (var "a")))))))))))

example : GrammarTree rules oddIndex := confB_sound _ (by decide +kernel)
example : extract oddIndex = .ok ["inputs.x"] := by decide
example : extractWith unrepairedDispatch oddIndex = .error "CAN NOT PROCESS MEMBER_INDEX terminal expr" := by decide +kernel

open Cel in
/-- `s.size().x` -/
def emptyCallReceiver : Cel :=
  liftMember (member (memberDot (member (memberDotArg (var "s") "size" [])) "x"))

example : GrammarTree rules emptyCallReceiver := confB_sound _ (by decide +kernel)
example : extract emptyCallReceiver = .ok [] := by decide

open Cel in
/-- `Foo{}.b` -/
def objectReceiver : Cel :=
  liftMember (member (memberDot (member (memberObject (var "Foo") [])) "b"))

example : GrammarTree rules objectReceiver := confB_sound _ (by decide +kernel)
example : extract objectReceiver = .ok [] := by decide
example : (extractWith unrepairedDispatch objectReceiver).toOption = none := by decide

example : stepsNamesRaw ["steps.a.b", "steps2.x", "inputs.y", "steps_q.z"] = [some "a", some "q"] := by decide +kernel

example : prepareK (fun (n : Nat) => n % 2 == 0) (fun _ => ([.compile, .lookup], .prepared)) 3
    = ([.validate], .permFail) := by decide
example : prepareK (fun (n : Nat) => n % 2 == 0) (fun _ => ([.compile, .lookup], .retry)) 4
    = ([.validate, .compile, .lookup], .retry) := by decide

end Koreo.C20
