/-
  C12 — Targets and returns are ordered deep merges; evaluation is pure.
  Property theorems only; helper lemmas are in `Koreo/Lemmas/Overlay.lean`.
  Model: `Koreo/Overlay.lean` (hand transcription of `_overlay_indexer`, `_overlay_applier`,
  `evaluate_overlay`, `_deep_overlay`, `_construct_resource_template`,
  `_materialize_from_overlays`, `_create_api_resource`, `reconcile_value_function`).

  CEL evaluation is the oracle parameter `ev` (or `f`, the leaf evaluation): every theorem holds
  for every such function.  The one hypothesis, `WFO spec` / `HDO forced`, says that a written map
  has pairwise distinct keys — true of every Python `dict`; `written_overlay_wf` carries it from
  the written JSON to the compiled tree and the `dupSpec` examples show it cannot be dropped.

  **Purity** ("never modifies the inputs, the base, a cached template or the function itself") is
  *not* a theorem here: the model is made of mathematical functions, which cannot modify anything,
  so such a statement would be vacuous.  It is decided on the implementation by before/after
  object-graph snapshots in `harness/c12.py`.  What *is* stated is determinism (the result is a
  function of the oracle's answers).
-/
import Koreo.Lemmas.Overlay
import Koreo.Gen.Overlay

namespace Koreo.C12
open Koreo Koreo.JVal Koreo.Overlay
variable {ε : Type}

/-! ## the compiled index: positions are exactly `[b, b + leaves)`, in order, distinct -/

/-- the positional value list is the list of written leaves, left to right, whatever the offset -/
theorem indexer_values (spec : List (String × OSpec ε)) (b : Nat) :
    (indexO spec b).2 = leavesO spec := indexO_values spec b

/-- read left to right, the positions stored in the index tree are `b, b+1, …, b+leaves-1` -/
theorem indexer_positions (spec : List (String × OSpec ε)) (b : Nat) :
    positionsO (indexO spec b).1 = List.range' b (leavesO spec).length := positionsO_index spec b

theorem indexer_positions_count (spec : List (String × OSpec ε)) (b : Nat) :
    (positionsO (indexO spec b).1).length = (indexO spec b).2.length := by
  rw [indexer_positions, indexer_values]; simp

/-- every stored position addresses a value: `b ≤ i < b + leaves`, and every such `i` is stored -/
theorem indexer_positions_range (spec : List (String × OSpec ε)) (b i : Nat) :
    i ∈ positionsO (indexO spec b).1 ↔ b ≤ i ∧ i < b + (leavesO spec).length := by
  rw [indexer_positions, List.mem_range'_1]

theorem indexer_positions_distinct (spec : List (String × OSpec ε)) (b : Nat) :
    (positionsO (indexO spec b).1).Nodup := by
  rw [indexer_positions]; exact List.nodup_range'

/-- the split made on the written JSON (`dict() if value` → node, everything else → leaf)
    yields a tree with distinct keys whenever the JSON maps have distinct keys -/
theorem written_overlay_wf (kvs : Fields) (h : HDO kvs) : WFO (OSpec.ofFields kvs) :=
  ofFields_wf kvs h

/-! ## index-compiled applier = deep merge, for every base and every overlay shape -/

/-- offset-general form: wherever the overlay's values sit inside a longer value list, the applier
    over the index compiled at that offset is the deep merge (this is the induction that goes
    through every nesting depth and sibling pattern) -/
theorem applier_is_deep_merge_at (f : ε → JVal) (spec : List (String × OSpec ε)) (h : WFO spec)
    (base : Fields) (pre post : List JVal) :
    applier base (indexO spec pre.length).1 (pre ++ (leavesO spec).map f ++ post)
      = deepMerge base (mapO f spec) :=
  applyLoop_eq_mergeO f spec h base pre post base (fun _ _ => rfl)

/-- `_overlay_applier(base, index, values)` with `index, leaves = _overlay_indexer(spec, 0)` and
    `values = [f(leaf) for leaf in leaves]` is the deep merge of the evaluated overlay into `base` -/
theorem applier_is_deep_merge (f : ε → JVal) (spec : List (String × OSpec ε)) (h : WFO spec)
    (base : Fields) :
    applier base (indexO spec 0).1 ((indexO spec 0).2.map f) = deepMerge base (mapO f spec) :=
  applier_eq_mergeO f spec h base

/-- `evaluate_overlay` (success path) for every oracle, activation, base and overlay -/
theorem evaluate_overlay_is_deep_merge (ev : Env → ε → JVal) (env : Env) (base : Fields)
    (spec : List (String × OSpec ε)) (h : WFO spec) :
    evalOverlay ev env base spec = deepMerge base (evalTree ev env base spec) :=
  evalOverlay_eq ev env base spec h

/-! ## what "deep merge" means, key by key -/

/-- a leaf replaces whatever is there — also when its (computed) value is a map -/
theorem deep_merge_leaf_replaces (b : Option JVal) (v : JVal) : mergeV b (.leaf v) = v := rfl

/-- a written map merges into the map that is there … -/
theorem deep_merge_node_into_map (bkvs : Fields) (kvs : List (String × OSpec JVal)) :
    mergeV (some (.obj bkvs)) (.node kvs) = .obj (deepMerge bkvs kvs) := rfl

/-- … and into a fresh map when there is none, or something that is not a map -/
theorem deep_merge_node_into_other (b : Option JVal) (kvs : List (String × OSpec JVal))
    (h : ∀ bkvs, b ≠ some (.obj bkvs)) : mergeV b (.node kvs) = .obj (deepMerge [] kvs) := by
  rw [mergeV, fieldsOf_of_not_obj h]

/-- a key the overlay does not write keeps its value; a key it writes holds the merge of what was
    there with what is written -/
theorem deep_merge_lookup (k : String) (ov : List (String × OSpec JVal)) (h : WFO ov) (base : Fields) :
    JVal.lookup k (deepMerge base ov) =
      match specLookup k ov with
      | none => JVal.lookup k base
      | some s => some (mergeV (JVal.lookup k base) s) :=
  mergeO_lookup k ov h base

/-- existing keys keep their place; new keys follow in the overlay's order; nothing else appears -/
theorem deep_merge_keys (ov : List (String × OSpec JVal)) (h : WFO ov) (base : Fields) :
    JVal.keys (deepMerge base ov)
      = JVal.keys base ++ (keysO ov).filter (fun k => !(JVal.keys base).contains k) :=
  mergeO_keys ov h base

/-! ## the forced overlay / `overlay()` deep merge -/

theorem deep_overlay_lookup (k : String) (ov : Fields) (h : HDO ov) (res : Fields) :
    JVal.lookup k (deepOverlay res ov) =
      match JVal.lookup k ov with
      | none => JVal.lookup k res
      | some o => some (dovV (JVal.lookup k res) o) :=
  dovO_lookup k ov (hdo_iff.mp h).1 res

theorem deep_overlay_idempotent (ov : Fields) (h : HDO ov) (res : Fields) :
    deepOverlay (deepOverlay res ov) ov = deepOverlay res ov := dovO_idem h res

theorem forced_overlay_wf (apiVersion kind name : String) (ns : Option String) :
    HDO (forcedOverlay apiVersion kind name ns) := forcedOverlay_hdo apiVersion kind name ns

/-- the translator recognised the shape of `_forced_overlay` in the current source -/
theorem extraction_ok : Koreo.Gen.Overlay.extractionOk = true := by decide

/-- the model's forced overlay has exactly the keys the source builds: the top-level keys, the
    `metadata` keys always present, and the ones added only when a namespace is given -/
theorem forced_overlay_matches_source (a k n : String) :
    (∀ ns, JVal.keys (forcedOverlay a k n ns) = Koreo.Gen.Overlay.forcedKeys) ∧
    JVal.lookup "metadata" (forcedOverlay a k n none) = some (.obj [("name", .str n)]) ∧
    [("name", JVal.str n)].map (·.1) = Koreo.Gen.Overlay.forcedMetadataKeys ∧
    (∀ ns, ∃ md, JVal.lookup "metadata" (forcedOverlay a k n (some ns)) = some (.obj md) ∧
      JVal.keys md = Koreo.Gen.Overlay.forcedMetadataKeys ++ Koreo.Gen.Overlay.forcedMetadataOptionalKeys) := by
  refine ⟨?_, rfl, rfl, ?_⟩
  · intro ns; cases ns <;> rfl
  · intro ns; exact ⟨_, rfl, rfl⟩

/-! ## the ResourceFunction pipeline is an ordered fold of deep merges -/

/-- the loop of `_materialize_from_overlays`: skipped steps vanish, every other step — inline
    overlay or ValueFunction overlay — deep-merges its evaluated overlay into the resource built
    so far, in listed order -/
theorem overlays_loop_is_fold (ev : Env → ε → JVal) (env : Env) (steps : List (Step ε))
    (h : ∀ s ∈ steps, WFO s.spec) (cur : Fields) :
    overlaysLoop ev env steps cur = (active ev env steps).foldl (mergeStep ev env) cur :=
  overlaysLoop_eq ev env steps h cur

/-- exactly as coded: without overlays the forced overlay is applied once, with overlays it is
    applied before and re-applied after the fold -/
theorem materialise_is_fold_cases (ev : Env → ε → JVal) (env : Env) (template forced : Fields)
    (steps : List (Step ε)) (h : ∀ s ∈ steps, WFO s.spec) :
    materialise ev env template forced steps =
      if steps.isEmpty then deepOverlay template forced
      else deepOverlay ((active ev env steps).foldl (mergeStep ev env) (deepOverlay template forced)) forced := by
  simp only [materialise]
  split
  · rfl
  · rw [overlays_loop_is_fold ev env steps h]

/-- the Target Resource Specification: base with the forced overlay, every non-skipped overlay
    deep-merged in listed order, forced overlay re-applied — one formula for every overlay list
    (the empty one included, by idempotence of the forced overlay) -/
theorem materialise_is_fold (ev : Env → ε → JVal) (env : Env) (template forced : Fields)
    (steps : List (Step ε)) (h : ∀ s ∈ steps, WFO s.spec) (hf : HDO forced) :
    materialise ev env template forced steps =
      deepOverlay ((active ev env steps).foldl (mergeStep ev env) (deepOverlay template forced)) forced := by
  rw [materialise_is_fold_cases ev env template forced steps h]
  cases steps with
  | nil => simp [active, deep_overlay_idempotent forced hf]
  | cons s rest => simp

/-- a skipped overlay leaves no trace: dropping it from the definition gives the same target -/
theorem skipped_overlay_leaves_no_trace (ev : Env → ε → JVal) (env : Env) (template forced : Fields)
    (pre post : List (Step ε)) (s : Step ε) (hs : skipped ev env s = true)
    (h : ∀ s' ∈ pre ++ s :: post, WFO s'.spec) (hf : HDO forced) :
    materialise ev env template forced (pre ++ s :: post) = materialise ev env template forced (pre ++ post) :=
  materialise_drop_skipped ev env template forced pre post s hs hf

/-! ### an overlay may vanish only when its `skipIf` is `true` -/

/-- the model with the PermFail exit agrees with the success-path model exactly when every
    `skipIf` is a boolean … -/
theorem materialiseE_of_decided (ev : Env → ε → JVal) (env : Env) (template forced : Fields)
    (steps : List (Step ε)) (h : ∀ s ∈ steps, skipDecision ev env s ≠ none) :
    materialiseE ev env template forced steps = some (materialise ev env template forced steps) := by
  rw [materialiseE_eq_F, materialiseF_eq, if_neg]
  simp only [List.any_eq_true, stepFails_iff, inputsOk_true]
  rintro ⟨s, hm, hn | ⟨_, hf⟩⟩
  · exact h s hm hn
  · cases hf

/-- … and a single `skipIf` that fails to evaluate or is not a boolean means **no target at all**
    (the step is neither skipped nor applied; nothing is created from the remaining overlays) -/
theorem unevaluable_skipIf_gives_no_target (ev : Env → ε → JVal) (env : Env) (template forced : Fields)
    (steps : List (Step ε)) (h : ∃ s ∈ steps, skipDecision ev env s = none) :
    materialiseE ev env template forced steps = none := by
  obtain ⟨s, hm, hn⟩ := h
  rw [materialiseE_eq_F, materialiseF_eq, if_pos (List.any_eq_true.mpr ⟨s, hm, stepFails_iff.mpr (.inl hn)⟩)]

/-- whenever a target exists, every listed overlay is either skipped because its `skipIf` is
    `true`, or is among the overlays merged into the target; and the target is the ordered fold -/
theorem no_overlay_vanishes (ev : Env → ε → JVal) (env : Env) (template forced : Fields)
    (steps : List (Step ε)) (t : Fields) (hw : ∀ s ∈ steps, WFO s.spec) (hf : HDO forced)
    (h : materialiseE ev env template forced steps = some t) :
    (∀ s ∈ steps, skipDecision ev env s = some true ∨ s ∈ active ev env steps) ∧
    t = deepOverlay ((active ev env steps).foldl (mergeStep ev env) (deepOverlay template forced)) forced := by
  constructor
  · -- by the definition of `active` alone: a step whose decision is not `true` is not skipped
    intro s hm
    by_cases hs : skipDecision ev env s = some true
    · exact .inl hs
    · exact .inr (List.mem_filter.mpr ⟨hm, by simpa [skipped_eq] using hs⟩)
  · rw [materialiseE_eq_F, materialiseF_eq] at h
    split at h
    · cases h
    · cases h
      exact materialise_is_fold ev env template forced steps hw hf

/-! ### inside one step the `skipIf` decides first; a listed overlay that is unavailable means no target -/

/-- when the `inputs` of every *applied* function overlay evaluate, the order-aware model is the
    model above -/
theorem materialiseF_of_inputs_ok (ev : Env → ε → JVal) (ok : Env → ε → Bool) (env : Env)
    (template forced : Fields) (steps : List (Step ε))
    (h : ∀ s ∈ steps, skipDecision ev env s = some false → inputsOk ok env s = true) :
    materialiseF ev ok env template forced steps = materialiseE ev env template forced steps := by
  rw [materialiseE_eq_F, materialiseF_eq, materialiseF_eq,
    any_stepFails_congr ev ok (fun _ _ => true) env steps fun s hm hd => by rw [h s hm hd, inputsOk_true]]

/-- **`skipIf` decides before anything else of the step is evaluated**: whether the `inputs` of a
    skipped (or undecidable) step evaluate is irrelevant — the outcome depends on `ok` only through
    the steps whose `skipIf` is `false`/absent -/
theorem skipIf_decides_before_inputs (ev : Env → ε → JVal) (ok ok' : Env → ε → Bool) (env : Env)
    (template forced : Fields) (steps : List (Step ε))
    (h : ∀ s ∈ steps, skipDecision ev env s = some false → inputsOk ok env s = inputsOk ok' env s) :
    materialiseF ev ok env template forced steps = materialiseF ev ok' env template forced steps := by
  rw [materialiseF_eq, materialiseF_eq, any_stepFails_congr ev ok ok' env steps h]

/-- a skipped step leaves no trace even when its `inputs` could not be evaluated: the target (or the
    failure) is the one of the definition without that step -/
theorem skipped_step_with_failing_inputs_leaves_no_trace (ev : Env → ε → JVal) (ok : Env → ε → Bool)
    (env : Env) (template forced : Fields) (pre post : List (Step ε)) (s : Step ε)
    (hs : skipDecision ev env s = some true) (hf : HDO forced) :
    materialiseF ev ok env template forced (pre ++ s :: post)
      = materialiseF ev ok env template forced (pre ++ post) := by
  have hsk : stepFails ev ok env s = false := by simp [stepFails, hs]
  rw [materialiseF_eq, materialiseF_eq,
    materialise_drop_skipped ev env template forced pre post s (by rw [skipped_eq, hs]; rfl) hf]
  simp only [List.any_append, List.any_cons, hsk, Bool.false_or]

/-- an *applied* function overlay whose `inputs` fail to evaluate: that outcome, no target -/
theorem failing_inputs_of_applied_step_gives_no_target (ev : Env → ε → JVal) (ok : Env → ε → Bool)
    (env : Env) (template forced : Fields) (steps : List (Step ε))
    (h : ∃ s ∈ steps, skipDecision ev env s = some false ∧ inputsOk ok env s = false) :
    materialiseF ev ok env template forced steps = none := by
  obtain ⟨s, hm, hf⟩ := h
  rw [materialiseF_eq, if_pos (List.any_eq_true.mpr ⟨s, hm, stepFails_iff.mpr (.inr hf)⟩)]

/-- a listed overlay that could not be prepared (its ValueFunction is not there yet): no target at
    all — never a target built from the remaining overlays -/
theorem unavailable_overlay_gives_no_target (ev : Env → ε → JVal) (ok : Env → ε → Bool) (env : Env)
    (template forced : Fields) (listed : List (Option (Step ε))) (h : none ∈ listed) :
    materialiseP ev ok env template forced listed = none := by
  simp [materialiseP, allAvailable_none listed h]

/-- whenever a target exists, *every* listed overlay was available, and the target is the one of
    exactly the listed steps (so, by `no_overlay_vanishes`, each of them is skipped-by-`true` or merged) -/
theorem target_uses_every_listed_overlay (ev : Env → ε → JVal) (ok : Env → ε → Bool) (env : Env)
    (template forced : Fields) (listed : List (Option (Step ε))) (t : Fields)
    (h : materialiseP ev ok env template forced listed = some t) :
    ∃ steps, listed = steps.map some ∧ materialiseF ev ok env template forced steps = some t := by
  unfold materialiseP at h
  cases ha : allAvailable listed with
  | none => simp [ha] at h
  | some steps =>
    simp only [ha] at h
    exact ⟨steps, allAvailable_some listed steps ha, h⟩

/-- the created object's view: optional `create.overlay` deep-merged over the target, forced
    overlay on top -/
theorem create_view_is_merge (ev : Env → ε → JVal) (env : Env) (target forced : Fields)
    (spec : List (String × OSpec ε)) (h : WFO spec) :
    createView ev env target forced (some spec)
      = deepOverlay (deepMerge target (evalTree ev env target spec)) forced := by
  simp only [createView]
  rw [evaluate_overlay_is_deep_merge ev env target spec h]

theorem create_view_without_overlay (ev : Env → ε → JVal) (env : Env) (target forced : Fields) :
    createView ev env target forced none = deepOverlay target forced := rfl

/-! ## ValueFunction return over `value_base` -/

/-- the return value is the deep merge of the evaluated `return` into the base (an absent base is
    the empty map) -/
theorem vf_return_is_merge (ev : Env → ε → JVal) (vf : VFn ε) (inputs : JVal) (valueBase : Option Fields)
    (h : WFO vf.ret) :
    vfReturn ev vf inputs valueBase
      = deepMerge (valueBase.getD []) (evalTree ev (vfEnv ev vf inputs valueBase) (valueBase.getD []) vf.ret) :=
  evalOverlay_eq ev _ _ vf.ret h

/-! ## the result is a function of the oracle's answers -/

/-- the result depends on the evaluator only through its answers: two evaluators that answer
    alike (e.g. the same evaluator asked again with equal inputs) give the same target -/
theorem deterministic (ev ev' : Env → ε → JVal) (hev : ∀ env e, ev env e = ev' env e)
    (env : Env) (template forced : Fields) (steps : List (Step ε)) :
    materialise ev env template forced steps = materialise ev' env template forced steps := by
  have : ev = ev' := funext fun env => funext fun e => hev env e
  rw [this]

theorem vf_deterministic (ev ev' : Env → ε → JVal) (hev : ∀ env e, ev env e = ev' env e)
    (vf : VFn ε) (inputs : JVal) (valueBase : Option Fields) :
    vfReturn ev vf inputs valueBase = vfReturn ev' vf inputs valueBase := by
  have : ev = ev' := funext fun env => funext fun e => hev env e
  rw [this]

/-! ## concrete instances: the hypotheses are met, and the distinct-keys one cannot be dropped -/

section examples

/-- written overlay `{metadata: {labels: {a: "=inputs.x", b: 2}, name: "n"}, spec: {replicas: 3, sel: {}}, data: [1]}` -/
def exOverlay : Fields :=
  [("metadata", .obj [("labels", .obj [("a", .str "=inputs.x"), ("b", .int 2)]), ("name", .str "n")]),
   ("spec", .obj [("replicas", .int 3), ("sel", .obj [])]),
   ("data", .arr [.int 1])]

def exSpec : List (String × OSpec JVal) := OSpec.ofFields exOverlay

def exBase : Fields :=
  [("metadata", .obj [("labels", .obj [("z", .int 0), ("a", .str "old")]), ("uid", .str "u")]),
   ("spec", .str "not-a-map"), ("keep", .bool true)]

def exEnv : Env := [("inputs", .obj [("x", .obj [("computed", .str "map")])])]

/-- a small oracle for the examples: the handful of expressions they use, as paths into the activation -/
def exEv (env : Env) : JVal → JVal
  | .str "=inputs.x" => lookupPath (.obj env) ["inputs", "x"]
  | .str "=inputs.skip" => lookupPath (.obj env) ["inputs", "skip"]
  | .str "=inputs.v" => lookupPath (.obj env) ["inputs", "v"]
  | .str "=locals.l" => lookupPath (.obj env) ["locals", "l"]
  | .str "=resource.metadata.name" => lookupPath (.obj env) ["resource", "metadata", "name"]
  | .obj [("v", .str "=inputs.v")] => .obj [("v", lookupPath (.obj env) ["inputs", "v"])]
  | .obj [("l", .str "=inputs.v")] => .obj [("l", lookupPath (.obj env) ["inputs", "v"])]
  | v => v

-- the hypotheses are met by a three-level overlay with siblings, an empty map and a list as leaves
example : WFO exSpec := by
  simp [exSpec, exOverlay, OSpec.ofFields, OSpec.ofJVal, WFO, OSpec.WF, keysO]

example : HDO exOverlay := by simp [exOverlay, HDO, HD, HDL, JVal.keys]

-- six leaves, positions 0..5 in order; nested node starts where the previous sibling's values end
example : positionsO (indexO exSpec 0).1 = [0, 1, 2, 3, 4, 5] := by decide
example : (indexO exSpec 0).1 =
    [("metadata", .sub [("labels", .sub [("a", .pos 0), ("b", .pos 1)]), ("name", .pos 2)]),
     ("spec", .sub [("replicas", .pos 3), ("sel", .pos 4)]),
     ("data", .pos 5)] := by rfl

-- the compiled applier and the specification agree on it, and give the expected document:
-- computed map replaces, existing keys are kept, a non-map base value is replaced by a fresh map
example : evalOverlay exEv exEnv exBase exSpec =
    [("metadata", .obj [("labels", .obj [("z", .int 0), ("a", .obj [("computed", .str "map")]), ("b", .int 2)]),
                        ("uid", .str "u"), ("name", .str "n")]),
     ("spec", .obj [("replicas", .int 3), ("sel", .obj [])]),
     ("keep", .bool true),
     ("data", .arr [.int 1])] := by rfl
example : evalOverlay exEv exEnv exBase exSpec = deepMerge exBase (evalTree exEv exEnv exBase exSpec) := by rfl

-- the distinct-keys hypothesis cannot be dropped: with a repeated key (impossible in a Python dict)
-- the applier, which reads the *original* base, and the sequential merge differ
def dupSpec : List (String × OSpec JVal) :=
  [("k", .node [("a", .leaf (.int 1))]), ("k", .node [("b", .leaf (.int 2))])]
example : ¬ WFO dupSpec := by simp [dupSpec, WFO, keysO]
example : applier [] (indexO dupSpec 0).1 ((indexO dupSpec 0).2.map id) = [("k", .obj [("b", .int 2)])] := by rfl
example : deepMerge [] (mapO id dupSpec) = [("k", .obj [("a", .int 1), ("b", .int 2)])] := by rfl

-- pipeline: template, one active overlay that attacks the identity, one skipped overlay, one
-- ValueFunction overlay reading `resource`; the forced overlay wins and the skipped one leaves no trace
def exForced : Fields := forcedOverlay "v1" "ConfigMap" "cm" (some "ns")
def exSteps : List (Step JVal) :=
  [.inline none (OSpec.ofFields [("metadata", .obj [("name", .str "evil"), ("labels", .obj [("a", .int 1)])])]),
   .inline (some (.str "=inputs.skip")) (OSpec.ofFields [("data", .obj [("never", .int 0)])]),
   .vfRef none (some (.obj [("v", .str "=inputs.v")]))
     { locals := some (.obj [("l", .str "=inputs.v")]),
       ret := OSpec.ofFields [("data", .obj [("fromVf", .str "=locals.l"), ("seen", .str "=resource.metadata.name")])] }]
def exRfEnv : Env := [("inputs", .obj [("skip", .bool true), ("v", .int 7)])]

example : ∀ s ∈ exSteps, WFO s.spec := by
  simp [exSteps, Step.spec, OSpec.ofFields, OSpec.ofJVal, WFO, OSpec.WF, keysO]

example : materialise exEv exRfEnv [("data", .obj [("k", .str "v")])] exForced exSteps =
    [("data", .obj [("k", .str "v"), ("fromVf", .int 7), ("seen", .str "evil")]),
     ("apiVersion", .str "v1"), ("kind", .str "ConfigMap"),
     ("metadata", .obj [("name", .str "cm"), ("namespace", .str "ns"), ("labels", .obj [("a", .int 1)])])] := by
  rfl
-- a `skipIf` that reads an absent input (the oracle answers a non-boolean): no target
example : materialiseE exEv exRfEnv [] exForced
    (exSteps ++ [.inline (some (.str "=inputs.absent")) (OSpec.ofFields [("a", .int 1)])]) = none := by rfl
example : (materialiseE exEv exRfEnv [("data", .obj [("k", .str "v")])] exForced exSteps).isSome = true := by rfl
-- a skipped function overlay whose `inputs` cannot be evaluated does not matter; the same step applied does
def exBadInputs : Step JVal := .vfRef (some (.str "=inputs.skip")) (some (.str "=inputs.tls.secretName"))
  { locals := none, ret := OSpec.ofFields [("a", .int 1)] }
def exOk (_ : Env) : JVal → Bool
  | .str "=inputs.tls.secretName" => false
  | _ => true
example : skipDecision exEv exRfEnv exBadInputs = some true ∧ inputsOk exOk exRfEnv exBadInputs = false := by
  constructor <;> rfl
example : materialiseF exEv exOk exRfEnv [] exForced (exSteps ++ [exBadInputs])
    = materialiseF exEv exOk exRfEnv [] exForced exSteps := by rfl
example : (materialiseF exEv exOk exRfEnv [] exForced exSteps).isSome = true := by rfl
example : materialiseF exEv exOk exRfEnv [] exForced
    [.vfRef none (some (.str "=inputs.tls.secretName")) { locals := none, ret := OSpec.ofFields [("a", .int 1)] }]
    = none := by rfl
-- a listed overlay that is not available: no target, although the other overlays are fine
example : materialiseP exEv exOk exRfEnv [] exForced (exSteps.map some ++ [none]) = none := by rfl
example : (materialiseP exEv exOk exRfEnv [] exForced (exSteps.map some)).isSome = true := by rfl
-- … and the hypotheses of `skipped_overlay_leaves_no_trace` are met by the second step
example : skipped exEv exRfEnv (exSteps[1]) = true := by rfl
example : active exEv exRfEnv exSteps = [exSteps[0], exSteps[2]] := by rfl

end examples

end Koreo.C12
