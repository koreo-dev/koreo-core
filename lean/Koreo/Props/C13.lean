/-
  C13 — First false assertion decides the outcome; unevaluable ones fail safe.
  Property theorems only; helper lemmas are in `Koreo/Lemmas/Predicates.lean`.
  Model: `Koreo/Predicates.lean` (hand transcription of predicate_helpers.py,
  cel/evaluation.py `evaluate_predicates`, and the position of the two predicate lists in
  value_function/reconcile.py and resource_function/reconcile/__init__.py).

  Every theorem is about lists of *any* length; the positions `pre ++ p :: post` range over
  every split of every list.

  Interpretation (DESIGN.md section 7): a failing `message` of an assertion that *passes* is
  dropped by the filter together with its predicate and is not constrained by the property
  (`none_false_continues` holds whatever the messages are); a failing message or delay of any
  *false* assertion gives PermFail (`failed_member_of_false_permfail`).
-/
import Koreo.Lemmas.Predicates
import Koreo.Gen.PredicateTable

namespace Koreo.C13
open Koreo.Predicates

/-- no false assertion carries a member (message, delay) that could not be evaluated -/
def CleanFalse (ps : List Pred) : Prop := ∀ p ∈ ps, p.assert = .ok false → p.hasErr = false

/-! ## the model's dispatch is the one of the source tree under test -/

/-- the translator could run `predicate_extractor`, `predicate_to_koreo_result` and `evaluate_predicates`
    of the tree under test on its probe inputs, and the order of the assertion kinds is determined -/
theorem extraction_ok :
    Koreo.Gen.PredicateTable.extractionOk = true ∧ Koreo.Gen.PredicateTable.orderDetermined = true := by decide

/-- the compiled filter keeps exactly the predicates the model's `filterNeg` keeps, in the same
    order, and is an error exactly when it is (probed on 16 assertion patterns); the syntactic scan,
    where it recognises the source's shape, agrees -/
theorem filter_matches_source :
    Koreo.Gen.PredicateTable.filterProbe = Predicates.filterProbeTable ∧
    (Koreo.Gen.PredicateTable.filterSuffix = "unknown" ∨
     Koreo.Gen.PredicateTable.filterSuffix = Predicates.filterSuffix) := by decide +kernel

/-- same map keys, tried in the same order, answering with the same outcome class; no key at all is
    the unknown kind -/
theorem table_matches_source :
    Koreo.Gen.PredicateTable.cases = Predicates.caseTable ∧
    Koreo.Gen.PredicateTable.bareOutcome = "PermFail" := ⟨rfl, rfl⟩

/-- only the first remaining predicate is looked at (its message and delay are returned); the error
    scan covers every survivor and precedes the match; a raising program, an error value and a
    non-list answer PermFail; no program means continue -/
theorem control_flow_matches_source :
    Koreo.Gen.PredicateTable.firstOnly = Predicates.firstOnlyTable ∧
    Koreo.Gen.PredicateTable.evaluatePredicates = Predicates.evaluatePredicatesTable ∧
    Koreo.Gen.PredicateTable.noProgram = "continue" ∧
    Koreo.Gen.PredicateTable.scanBeforeMatch ≠ "no" := ⟨rfl, rfl, rfl, by decide +kernel⟩

/-- the retry arm's delay conversion is the one the delay abstraction assumes -/
theorem delay_conversion_matches_source :
    Koreo.Gen.PredicateTable.delays = Predicates.delayTable := rfl

/-! ## every assertion is a boolean -/

/-- the first false assertion alone decides: whatever comes after it (true or false, of any
    kind) the answer is the one its own predicate gives -/
theorem all_bool_first_false_decides (pre post : List Pred) (p : Pred)
    (hbool : AllBool (pre ++ p :: post)) (hclean : CleanFalse (pre ++ p :: post))
    (hpre : ∀ q ∈ pre, q.assert = .ok true) (hp : p.assert = .ok false) :
    decide (pre ++ p :: post) = outcomeOf p := by
  have hany : (falseOnes (pre ++ p :: post)).any Pred.hasErr = false :=
    List.any_eq_false.mpr fun q hq => by
      obtain ⟨hm, hf⟩ := mem_falseOnes.mp hq
      simp [hclean q hm hf]
  rw [decide_allBool _ hbool, hany, falseOnes_split pre post p hpre hp]
  rfl

/-- … and that answer is its skip / depSkip / retry / permFail outcome with its own message and
    delay, or "continue" for the ok kind -/
theorem first_false_returns_its_outcome (pre post : List Pred) (p : Pred)
    (hbool : AllBool (pre ++ p :: post)) (hclean : CleanFalse (pre ++ p :: post))
    (hpre : ∀ q ∈ pre, q.assert = .ok true) (hp : p.assert = .ok false) :
    (p.kind = .ok → decide (pre ++ p :: post) = none) ∧
    (∀ m, p.kind = .depSkip → p.message = .ok m → decide (pre ++ p :: post) = some (.depSkip m)) ∧
    (∀ m, p.kind = .skip → p.message = .ok m → decide (pre ++ p :: post) = some (.skip m)) ∧
    (∀ m d, p.kind = .retry → p.message = .ok m → p.delay = .ok d →
        decide (pre ++ p :: post) = some (.retry d m)) ∧
    (∀ m, p.kind = .permFail → p.message = .ok m → decide (pre ++ p :: post) = some (.permFail m)) := by
  rw [all_bool_first_false_decides pre post p hbool hclean hpre hp]
  exact ⟨outcomeOf_ok, fun _ => outcomeOf_depSkip, fun _ => outcomeOf_skip, fun _ _ => outcomeOf_retry,
    fun _ => outcomeOf_permFail⟩

/-- "alone": two lists that agree up to and including their first false assertion get the same answer -/
theorem later_predicates_irrelevant (pre post post' : List Pred) (p : Pred)
    (hbool : AllBool (pre ++ p :: post)) (hclean : CleanFalse (pre ++ p :: post))
    (hbool' : AllBool (pre ++ p :: post')) (hclean' : CleanFalse (pre ++ p :: post'))
    (hpre : ∀ q ∈ pre, q.assert = .ok true) (hp : p.assert = .ok false) :
    decide (pre ++ p :: post) = decide (pre ++ p :: post') := by
  rw [all_bool_first_false_decides pre post p hbool hclean hpre hp,
      all_bool_first_false_decides pre post' p hbool' hclean' hpre hp]

/-- if no assertion is false the Function continues (whatever the kinds, messages and delays are) -/
theorem none_false_continues (ps : List Pred) (h : ∀ p ∈ ps, p.assert = .ok true) :
    decide ps = none := by
  have hb : AllBool ps := fun p hp => ⟨true, h p hp⟩
  rw [decide_allBool ps hb, falseOnes_allTrue ps h]
  rfl

/-- a false assertion of the `ok` kind stops the checking: later false assertions, of whatever
    kind, are not consulted and the Function continues -/
theorem ok_kind_stops_checking (pre post : List Pred) (p : Pred)
    (hbool : AllBool (pre ++ p :: post)) (hclean : CleanFalse (pre ++ p :: post))
    (hpre : ∀ q ∈ pre, q.assert = .ok true) (hp : p.assert = .ok false) (hk : p.kind = .ok) :
    decide (pre ++ p :: post) = none :=
  (first_false_returns_its_outcome pre post p hbool hclean hpre hp).1 hk

/-! ## something cannot be evaluated, or is not a boolean -/

/-- a non-boolean assertion at any position of any list, whatever the other predicates are -/
theorem nonbool_anywhere_permfail (pre post : List Pred) (p : Pred) (hp : p.assert = .nonBool) :
    decide (pre ++ p :: post) = some (.evalFail .assertion) ∧
    (Decision.evalFail Why.assertion).cls = .permFail :=
  ⟨decide_of_negate_none (by simp) ((negate_none_iff _).2 (.inl hp)), rfl⟩

/-- an assertion whose evaluation fails, at any position of any list -/
theorem failed_assert_permfail (pre post : List Pred) (p : Pred) (hp : p.assert = .failed) :
    decide (pre ++ p :: post) = some (.evalFail .assertion) ∧
    (Decision.evalFail Why.assertion).cls = .permFail :=
  ⟨decide_of_negate_none (by simp) ((negate_none_iff _).2 (.inr hp)), rfl⟩

/-- a message or delay that cannot be evaluated, on any *false* assertion (not only the first) -/
theorem failed_member_of_false_permfail (ps : List Pred) (p : Pred) (hbool : AllBool ps)
    (hmem : p ∈ ps) (hp : p.assert = .ok false) (herr : p.hasErr = true) :
    decide ps = some (.evalFail .member) ∧ (Decision.evalFail Why.member).cls = .permFail := by
  refine ⟨?_, rfl⟩
  rw [decide_allBool ps hbool]
  have : (falseOnes ps).any Pred.hasErr = true :=
    List.any_eq_true.mpr ⟨p, mem_falseOnes.mpr ⟨hmem, hp⟩, herr⟩
  simp [this]

/-- a retry delay that evaluates but is not an integer -/
theorem bad_delay_permfail (pre post : List Pred) (p : Pred) (m : String)
    (hbool : AllBool (pre ++ p :: post)) (hclean : CleanFalse (pre ++ p :: post))
    (hpre : ∀ q ∈ pre, q.assert = .ok true) (hp : p.assert = .ok false)
    (hk : p.kind = .retry) (hm : p.message = .ok m) (hd : p.delay = .notInt) :
    decide (pre ++ p :: post) = some (.evalFail .badDelay) := by
  rw [all_bool_first_false_decides pre post p hbool hclean hpre hp, outcomeOf_retry_notInt hk hm hd]

/-- fail-safe: whenever the Function is allowed to continue, every assertion was a boolean and
    either none was false or the first false one was of the ok kind — an undecidable list never
    lets the body run -/
theorem continue_only_if (ps : List Pred) (h : decide ps = none) :
    AllBool ps ∧ (falseOnes ps = [] ∨ ∃ p rest, falseOnes ps = p :: rest ∧ p.kind = .ok) := by
  rw [decide_eq] at h
  split at h
  · next hall =>
    refine ⟨(allBool_iff ps).2 hall, ?_⟩
    split at h
    · cases h
    · cases hf : falseOnes ps with
      | nil => exact .inl rfl
      | cons p rest => exact .inr ⟨p, rest, rfl, (outcomeOf_none_iff p).mp (by rwa [hf] at h)⟩
  · cases h

/-- every non-continue answer is one of the four non-Ok classes, and an unevaluable list is PermFail -/
theorem unevaluable_is_permfail (w : Why) : (Decision.evalFail w).cls = .permFail := rfl

/-! ## the body and the cluster -/

/-- ValueFunction: when the preconditions do not say "continue", nothing else is evaluated and
    their answer is the Function's outcome -/
theorem decided_means_body_not_evaluated (pre : List Pred) (hasReturn : Bool) (d : Decision)
    (h : decide pre = some d) :
    vfRun pre hasReturn = ⟨.decided d, [.preconditions]⟩ :=
  vfRun_decided hasReturn h

/-- ResourceFunction: the same for preconditions (no locals, no apiConfig, no template, no
    postconditions, no return) … -/
theorem rf_decided_means_body_not_evaluated (pre post : List Pred) (lk : Lookup) (crud : Crud)
    (d : Decision) (h : decide pre = some d) :
    rfRun pre post lk crud = ⟨.decided d, [.preconditions]⟩ :=
  rfRunR_decided true post lk crud h

/-- … and in particular the cluster is not touched — not even by the kind-to-plural discovery
    of a Function without `apiConfig.plural`, and whether or not the cluster knows the kind -/
theorem precondition_decided_means_no_api (pre post : List Pred) (lk : Lookup) (crud : Crud)
    (d : Decision) (h : decide pre = some d) :
    Ev.api ∉ (rfRun pre post lk crud).trace := by
  rw [rf_decided_means_body_not_evaluated pre post lk crud d h]
  simp

/-- conversely the discovery does happen once the preconditions continue (`precondition_decided_means_no_api`
    is not vacuous), and a failing discovery is an outcome of the body, never of the preconditions -/
theorem continue_means_discovery_happens (pre post : List Pred) (crud : Crud) (h : decide pre = none) :
    rfRun pre post .unknownKind crud =
      ⟨.body "lookupFailed", [.preconditions, .locals, .apiConfig, .api]⟩ :=
  rfRunR_unknownKind true post crud h

/-- conversely, "continue" does let the body run (so `decided_means_body_not_evaluated` and
    `rf_decided_means_body_not_evaluated` are not vacuous) -/
theorem continue_means_body_evaluated (pre : List Pred) (h : decide pre = none) :
    vfRun pre true = ⟨.body "return", [.preconditions, .locals, .returnValue]⟩ :=
  vfRun_continue true h

/-- postconditions sit between the Kubernetes part and `return`: when they decide, `return` is
    not evaluated and their answer is the Function's outcome -/
theorem postcondition_decided_means_return_not_evaluated (pre post : List Pred) (lk : Lookup) (crud : Crud)
    (d : Decision) (hpre : decide pre = none) (hlk : lk ≠ .unknownKind) (hok : crud.isOk = true)
    (h : decide post = some d) :
    (rfRun pre post lk crud).out = .decided d ∧ Ev.returnValue ∉ (rfRun pre post lk crud).trace := by
  rw [rfRun, rfRunR_post_decided true hpre hlk hok h]
  refine ⟨rfl, fun hm => ?_⟩
  simp only [List.mem_append, List.mem_cons, List.mem_nil_iff, reduceCtorEq, or_false, false_or] at hm
  rcases mem_k8s_trace lk crud _ (List.mem_append.2 hm) with e | e <;> cases e

/-- in particular for `deleteIfExists` with the object already gone (an Ok result that is the empty
    map): the postconditions are still evaluated and decide -/
theorem postconditions_checked_for_deleted_object (pre post : List Pred) (d : Decision)
    (hpre : decide pre = none) (h : decide post = some d) :
    (rfRun pre post .notNeeded .deletedAbsent).out = .decided d ∧
    Ev.postconditions ∈ (rfRun pre post .notNeeded .deletedAbsent).trace := by
  rw [rfRun, rfRunR_post_decided true hpre (by decide) rfl h]
  exact ⟨rfl, by simp⟩

/-- a ResourceFunction without `return`: the postconditions are evaluated all the same and a deciding
    list gives the outcome; only when they continue is the (absent) return skipped -/
theorem postconditions_checked_without_return (pre post : List Pred) (lk : Lookup) (crud : Crud)
    (d : Decision) (hpre : decide pre = none) (hlk : lk ≠ .unknownKind) (hok : crud.isOk = true)
    (h : decide post = some d) :
    (rfRunR false pre post lk crud).out = .decided d ∧
    Ev.postconditions ∈ (rfRunR false pre post lk crud).trace := by
  rw [rfRunR_post_decided false hpre hlk hok h]
  exact ⟨rfl, by simp⟩

/-! ## non-vacuity: concrete lists that meet the hypotheses -/

private def t (k : Kind) : Pred := ⟨.ok true, k, .ok "t", .ok 1⟩
private def f (k : Kind) (m : String) : Pred := ⟨.ok false, k, .ok m, .ok 7⟩

/-- three assertions fail at once; the first false one (retry) wins over a later permFail -/
example : decide [t .permFail, f .retry "first", t .skip, f .permFail "later", f .skip "last"]
    = some (.retry 7 "first") := by decide

/-- a failing message on a passing assertion is ignored, on a false one it is PermFail -/
example : decide [⟨.ok true, .skip, .failed, .ok 0⟩, f .depSkip "d"] = some (.depSkip "d") := by decide
example : decide [f .depSkip "d", ⟨.ok false, .skip, .failed, .ok 0⟩] = some (.evalFail .member) := by decide

/-- ok kind first: the later permFail is not consulted -/
example : decide [f .ok "", f .permFail "p"] = none := by decide

/-- a non-boolean after a false assertion still gives PermFail -/
example : decide [f .skip "s", ⟨.nonBool, .ok, .ok "", .ok 0⟩] = some (.evalFail .assertion) := by decide

example : Ev.api ∉ (rfRun [f .skip "s"] [] .found .createRetry).trace := by decide
example : Ev.api ∈ (rfRun [t .skip] [] .notNeeded .createRetry).trace := by decide
example : (rfRun [f .skip "s"] [] .unknownKind .okMatch).out = .decided (.skip "s") := by decide

end Koreo.C13
