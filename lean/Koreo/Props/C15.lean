/-
  C15 — Cache is keyed by resourceVersion: prepare once per version, latest wins.
  Property theorems only; helper lemmas are in `Koreo/Lemmas/Cache.lean`.
  Model: `Koreo/Cache.lean` (hand transcription of `prepare_and_cache`, `delete_from_cache`,
  `get_resource_from_cache`, `get_resource_system_data_from_cache`, `_extract_meta` of
  src/koreo/cache.py).  Every theorem holds for every preparer oracle `prep` and — except where a
  history is mentioned — for every state, in particular for every state a history can reach.
-/
import Koreo.Lemmas.Cache

namespace Koreo.C15
open Koreo.Cache
variable {σ ρ : Type} (prep : Nat → String → σ → PrepResult ρ)

/-! ## refinement: the cache is a plain map keyed by (kind, name) -/

/-- one step of the cache is one step of the map specification, with the same output -/
theorem refinement_step (s : State σ ρ) (op : Op σ) :
    abs (step prep s op).1 = (specStep prep (abs s) op).1 ∧
    (step prep s op).2 = (specStep prep (abs s) op).2 := by
  -- both sides branch on the same tests: decide them first, then the two definitions unfold alike
  have hmap : ∀ k, (abs s).map k = find? s.cache k := fun _ => rfl
  cases op with
  | offer k version spec sys c =>
    cases hm : validMeta k version with
    | false => simp only [step, specStep, hm, Bool.false_eq_true, if_false, and_self]
    | true =>
      cases hf : find? s.cache k with
      | none => simp only [step, specStep, hm, hmap, hf, if_true]; exact ⟨abs_set .., rfl⟩
      | some e =>
        by_cases hv : e.version = version.getD ""
        · simp only [step, specStep, hm, hmap, hf, hv, if_true, and_self]
        · simp only [step, specStep, hm, hmap, hf, hv, if_true, if_false]; exact ⟨abs_set .., rfl⟩
  | delete k version =>
    cases hf : find? s.cache k with
    | none => simp only [step, specStep, hmap, hf, and_self]
    | some e =>
      cases hs : truthy version && decide (version.getD "" ≠ e.version) with
      | true => simp only [step, specStep, hmap, hf, hs, if_true, and_self]
      | false => simp only [step, specStep, hmap, hf, hs, Bool.false_eq_true, if_false]; exact ⟨abs_del .., trivial⟩
  | deleteMeta k version =>
    cases hm : validMeta k version with
    | false => simp only [step, specStep, hm, Bool.false_eq_true, if_false, and_self]
    | true =>
      cases hf : find? s.cache k with
      | none => simp only [step, specStep, hm, hmap, hf, if_true, and_self]
      | some e => simp only [step, specStep, hm, hmap, hf, if_true]; exact ⟨abs_del .., trivial⟩
  | lookup k => exact ⟨rfl, rfl⟩
  | systemData k => exact ⟨rfl, rfl⟩
  | elapse n => exact ⟨rfl, rfl⟩

/-- hence for every operation sequence: same abstract state, same outputs -/
theorem refinement (s : State σ ρ) (ops : List (Op σ)) :
    abs (run prep s ops) = specRun prep (abs s) ops ∧ outs prep s ops = specOuts prep (abs s) ops := by
  induction ops generalizing s with
  | nil => exact ⟨rfl, rfl⟩
  | cons op ops ih =>
    obtain ⟨h1, h2⟩ := refinement_step prep s op
    obtain ⟨i1, i2⟩ := ih (step prep s op).1
    simp only [run, specRun, outs, specOuts]
    rw [← h1, ← h2]
    exact ⟨i1, by rw [i2]⟩

theorem refinement_from_empty (ops : List (Op σ)) :
    abs (run prep init ops) = specRun prep Spec.init ops ∧
    outs prep init ops = specOuts prep Spec.init ops :=
  refinement prep init ops

/-- Offering the name and resourceVersion already cached returns the cached result (the very object:
    same serial) without calling the preparer, without touching the registry and without changing
    anything — whatever spec is offered. -/
theorem same_version_not_reprepared (s : State σ ρ) (k : Key) (v : String) (spec : σ) (sys : Option Nat)
    (c : Bool) (e : Entry σ ρ) (hk : k.2 ≠ "") (hv : v ≠ "") (hc : find? s.cache k = some e)
    (hver : e.version = v) :
    step prep s (.offer k (some v) spec sys c) = (s, .returned e.resource e.serial false) :=
  step_offer_hit prep s k (some v) spec sys c e ((validMeta_iff k _).mpr ⟨hk, v, rfl, hv⟩) hc hver

/-- Time is not an input of the cache: while nothing but time passes — any number of waits of any
    length — the state (entries, versions, call count) stays exactly what it was. -/
theorem time_passing_changes_nothing (s : State σ ρ) (waits : List Nat) :
    run prep s (waits.map .elapse) = s ∧
    outs prep s (waits.map .elapse) = waits.map (fun _ => .unit) := by
  induction waits with
  | nil => exact ⟨rfl, rfl⟩
  | cons n t ih =>
    obtain ⟨i1, i2⟩ := ih
    -- an `elapse` step is the identity by `rfl`, so the run of the tail (`i1`) is the run of `n :: t`
    exact ⟨i1, by simp only [List.map_cons, outs, step]; rw [i2]⟩

/-- "Prepare once per version" has no expiry: however long the entry has been cached — whatever its
    result is, a failed one (a `Retry` with a delay long past included) — offering its name and
    resourceVersion again returns that very object without calling the preparer. -/
theorem same_version_not_reprepared_after_any_time (s : State σ ρ) (k : Key) (v : String) (spec : σ)
    (sys : Option Nat) (c : Bool) (e : Entry σ ρ) (waits : List Nat) (hk : k.2 ≠ "") (hv : v ≠ "")
    (hc : find? s.cache k = some e) (hver : e.version = v) :
    step prep (run prep s (waits.map .elapse)) (.offer k (some v) spec sys c) =
      (s, .returned e.resource e.serial false) := by
  rw [(time_passing_changes_nothing prep s waits).1]
  exact same_version_not_reprepared prep s k v spec sys c e hk hv hc hver

/-- Offering a different resourceVersion (or a name not cached) always calls the preparer once, on the
    offered spec, and caches exactly what it returned — a failed preparation included — under the
    offered version; the offer hands that result back, or, when wiring up the declared subscriptions
    raises `SubscriptionCycle`, raises after having stored it. -/
theorem new_version_reprepared (s : State σ ρ) (k : Key) (v : String) (spec : σ) (sys : Option Nat)
    (c : Bool) (hk : k.2 ≠ "") (hv : v ≠ "") (hdiff : ∀ e, find? s.cache k = some e → e.version ≠ v) :
    let r := prep k.1 k.2 spec
    let s' := (step prep s (.offer k (some v) spec sys c)).1
    (step prep s (.offer k (some v) spec sys c)).2 =
      (if c then .raisedCycle r s.calls else .returned r s.calls true) ∧
    s'.calls = s.calls + 1 ∧
    find? s'.cache k = some ⟨spec, r, s.calls, v, sys⟩ ∧
    ∀ k', k' ≠ k → find? s'.cache k' = find? s.cache k' := by
  have hm : validMeta k (some v) = true := (validMeta_iff k _).mpr ⟨hk, v, rfl, hv⟩
  have hstep := step_offer_miss prep s k (some v) spec sys c hm hdiff
  intro r s'
  have hs' : s' = ⟨set s.cache k ⟨spec, r, s.calls, v, sys⟩, s.calls + 1⟩ := congrArg Prod.fst hstep
  refine ⟨congrArg Prod.snd hstep, ?_⟩
  rw [hs']
  exact ⟨rfl, by simp, fun k' hk' => by rw [find_set, if_neg (Ne.symm hk')]⟩

/-- A failed preparation — a non-Ok outcome of the preparer, or the PermFail the cache substitutes when
    the spec is nested too deeply to copy — is cached under its version exactly like a successful one:
    lookups return it, and offering the same version again returns that very object without preparing. -/
theorem failed_preparation_is_cached (s : State σ ρ) (k : Key) (v : String) (spec spec' : σ)
    (sys sys' : Option Nat) (c c' : Bool) (err : ρ) (hk : k.2 ≠ "") (hv : v ≠ "")
    (hdiff : ∀ e, find? s.cache k = some e → e.version ≠ v) (hfail : prep k.1 k.2 spec = .failed err) :
    let s' := (step prep s (.offer k (some v) spec sys c)).1
    (step prep s' (.lookup k)).2 = .found (some (.failed err, s.calls)) ∧
    step prep s' (.offer k (some v) spec' sys' c') = (s', .returned (.failed err) s.calls false) := by
  intro s'
  obtain ⟨_, _, h3, _⟩ := new_version_reprepared prep s k v spec sys c hk hv hdiff
  have hfind : find? s'.cache k = some ⟨spec, .failed err, s.calls, v, sys⟩ := by rw [← hfail]; exact h3
  refine ⟨?_, same_version_not_reprepared prep s' k v spec' sys' c' _ hk hv hfind rfl⟩
  show Out.found ((find? s'.cache k).map _) = _
  rw [hfind]; rfl

/-- the registry's answer never changes what is cached: an offer that raises `SubscriptionCycle`
    leaves exactly the state the same offer leaves when it succeeds -/
theorem cycle_raise_still_caches (s : State σ ρ) (k : Key) (version : Option String) (spec : σ)
    (sys : Option Nat) :
    (step prep s (.offer k version spec sys true)).1 = (step prep s (.offer k version spec sys false)).1 ∧
    (step prep s (.offer k version spec sys true)).2.value? =
      (step prep s (.offer k version spec sys false)).2.value? := by
  rcases step_offer_cases prep s k version spec sys true with ⟨hb, h⟩ | ⟨e, hm, he, hv, h⟩ | ⟨hm, hd, h⟩
  · rw [h, step_offer_bad prep s k version spec sys false hb]; exact ⟨rfl, rfl⟩
  · rw [h, step_offer_hit prep s k version spec sys false e hm he hv]; exact ⟨rfl, rfl⟩
  · rw [h, step_offer_miss prep s k version spec sys false hm hd]; exact ⟨rfl, rfl⟩

/-- for a well-formed offer the preparer runs iff the cached version differs (or nothing is cached) -/
theorem prepared_iff_version_differs (s : State σ ρ) (k : Key) (v : String) (spec : σ) (sys : Option Nat)
    (c : Bool) (hk : k.2 ≠ "") (hv : v ≠ "") :
    (step prep s (.offer k (some v) spec sys c)).1.calls = s.calls + 1 ↔
      ∀ e, find? s.cache k = some e → e.version ≠ v := by
  constructor
  · intro h e he hver
    rw [same_version_not_reprepared prep s k v spec sys c e hk hv he hver] at h
    simp at h
  · intro h; exact (new_version_reprepared prep s k v spec sys c hk hv h).2.1

/-- an offer without a name or without a resourceVersion raises and changes nothing -/
theorem malformed_offer_rejected (s : State σ ρ) (k : Key) (version : Option String) (spec : σ)
    (sys : Option Nat) (c : Bool) (h : validMeta k version = false) :
    step prep s (.offer k version spec sys c) = (s, .typeError) :=
  step_offer_bad prep s k version spec sys c h

/-- The cache is keyed by (kind, name) and versioned by `metadata.resourceVersion` alone: two metadata
    objects that agree on name and resourceVersion are the same operation, whatever `generation`, uid,
    labels, annotations, managedFields or timestamps they carry — for offers and for deletes by metadata. -/
theorem metadata_beyond_name_and_version_irrelevant (kind : Nat) (m m' : Meta) (spec : σ) (sys : Option Nat)
    (c : Bool) (hn : m.name = m'.name) (hv : m.resourceVersion = m'.resourceVersion) (s : State σ ρ) :
    step prep s (offerOf kind m spec sys c) = step prep s (offerOf kind m' spec sys c) ∧
    step prep s (deleteMetaOf kind m) = step prep s (deleteMetaOf kind m') := by
  simp [offerOf, deleteMetaOf, hn, hv]

/-- in particular a new resourceVersion under an unchanged `generation` (a label, annotation or status
    write) is a new version: it is prepared again -/
theorem same_generation_new_version_reprepared (s : State σ ρ) (kind : Nat) (name v v' : String) (g : Nat)
    (others others' : List (String × String)) (spec spec' : σ) (sys : Option Nat)
    (hn : name ≠ "") (hv : v ≠ "") (hv' : v' ≠ "") (hne : v ≠ v') :
    let s1 := (step prep s (offerOf kind ⟨some name, some v, some g, others⟩ spec sys false)).1
    (step prep s1 (offerOf kind ⟨some name, some v', some g, others'⟩ spec' sys false)).2 =
      .returned (prep kind name spec') s1.calls true := by
  intro s1
  have hk : ((kind, name) : Key).2 ≠ "" := hn
  obtain ⟨e, he, hver, -, -⟩ := offer_entry prep s (kind, name) (some v) spec sys false
    ((validMeta_iff _ _).mpr ⟨hk, v, rfl, hv⟩)
  exact (new_version_reprepared prep s1 (kind, name) v' spec' sys false hk hv'
    (by intro e' he'; cases he.symm.trans he'; rw [hver]; exact hne)).1

/-- Lookups return the result for the most recently offered version: after an offer of (`k`, `v`) —
    whether it returned or raised `SubscriptionCycle` after preparing — and any further operations
    that do not offer another version of `k` nor delete it, both lookups of `k` give exactly what that
    offer prepared or found cached — the same object (serial), Ok or failed alike — under version `v`. -/
theorem lookup_returns_latest_offered (s : State σ ρ) (k : Key) (v : String) (spec : σ) (sys : Option Nat)
    (c : Bool) (hk : k.2 ≠ "") (hv : v ≠ "") (later : List (Op σ)) (hq : ∀ op ∈ later, Quiet k v op) :
    ∃ r n e,
      (step prep s (.offer k (some v) spec sys c)).2.value? = some (r, n) ∧
      (step prep (run prep (step prep s (.offer k (some v) spec sys c)).1 later) (.lookup k)).2 = .found (some (r, n)) ∧
      (step prep (run prep (step prep s (.offer k (some v) spec sys c)).1 later) (.systemData k)).2 = .entry (some e) ∧
      e.resource = r ∧ e.serial = n ∧ e.version = v ∧
      ((step prep s (.offer k (some v) spec sys c)).1.calls = s.calls + 1 →
        r = prep k.1 k.2 spec ∧ e.spec = spec ∧ e.sys = sys) := by
  -- the entry right after the offer is carried through the quiet operations
  obtain ⟨e, hfind, hver, hout, hp⟩ := offer_entry prep s k (some v) spec sys c
    ((validMeta_iff k _).mpr ⟨hk, v, rfl, hv⟩)
  have hfin := quiet_run prep _ k v e later hq hfind hver
  refine ⟨e.resource, e.serial, e, hout, ?_, ?_, rfl, rfl, hver, fun h => ?_⟩
  · show Out.found ((find? _ k).map _) = _
    rw [hfin]; rfl
  · show Out.entry (find? _ k) = _
    rw [hfin]
  · rw [hp h]; exact ⟨rfl, rfl, rfl⟩

/-- lookups never change the cache and agree with each other -/
theorem lookups_are_pure (s : State σ ρ) (k : Key) :
    (step prep s (.lookup k)).1 = s ∧ (step prep s (.systemData k)).1 = s ∧
    (step prep s (.lookup k)).2 = .found ((find? s.cache k).map fun e => (e.resource, e.serial)) ∧
    (step prep s (.systemData k)).2 = .entry (find? s.cache k) := ⟨rfl, rfl, rfl, rfl⟩

/-- Deleting by name (no version, or the cached version) removes the entry: both lookups answer
    "nothing" afterwards, every other key is untouched, no preparer runs. -/
theorem delete_removes (s : State σ ρ) (k : Key) (version : Option String)
    (h : version = none ∨ ∃ e, find? s.cache k = some e ∧ version = some e.version) :
    let s' := (step prep s (.delete k version)).1
    find? s'.cache k = none ∧ (step prep s' (.lookup k)).2 = .found none ∧
    (step prep s' (.systemData k)).2 = .entry none ∧ s'.calls = s.calls ∧
    ∀ k', k' ≠ k → find? s'.cache k' = find? s.cache k' := by
  intro s'
  have key : find? s'.cache k = none ∧ s'.calls = s.calls := by
    cases hf : find? s.cache k with
    | none =>
      have : s' = s := congrArg Prod.fst (step_delete_keep prep s k version (by simp [hf]))
      rw [this]; exact ⟨hf, rfl⟩
    | some e =>
      have hs : spares version e = false := by
        rcases h with rfl | ⟨e', he', rfl⟩
        · rfl
        · cases hf.symm.trans he'; simp [spares]
      have : s' = { s with cache := del s.cache k } :=
        congrArg Prod.fst (step_delete_drop prep s k version e hf hs)
      rw [this]; exact ⟨by simp, rfl⟩
  refine ⟨key.1, ?_, ?_, key.2, fun k' hk' => find_step_of_ne prep s _ k' fun e => hk' (Option.some.inj e).symm⟩
  · show Out.found ((find? s'.cache k).map _) = _
    rw [key.1]; rfl
  · show Out.entry (find? s'.cache k) = _
    rw [key.1]

/-- The metadata-driven entry point `delete_resource_from_cache` deletes by NAME: whatever
    resourceVersion the delete's metadata carries (a Kubernetes DELETED event carries a newer one than
    the cached), it does exactly what the unversioned `delete_from_cache` does. -/
theorem delete_by_metadata_removes (s : State σ ρ) (k : Key) (version : Option String)
    (h : validMeta k version = true) :
    step prep s (.deleteMeta k version) = step prep s (.delete k none) ∧
    find? (step prep s (.deleteMeta k version)).1.cache k = none := by
  have e1 := step_deleteMeta prep s k version h
  exact ⟨e1, by rw [e1]; exact (delete_removes prep s k none (.inl rfl)).1⟩

/-- delete metadata without a name or a resourceVersion is rejected by `_extract_meta`; nothing changes -/
theorem malformed_delete_rejected (s : State σ ρ) (k : Key) (version : Option String)
    (h : validMeta k version = false) : step prep s (.deleteMeta k version) = (s, .typeError) :=
  step_deleteMeta_bad prep s k version h

/-- A delete that names a stale version (non-empty, different from the cached one) leaves the newer
    entry — and everything else — untouched. -/
theorem stale_delete_keeps_newer (s : State σ ρ) (k : Key) (w : String) (e : Entry σ ρ)
    (hc : find? s.cache k = some e) (hw : w ≠ "") (hstale : w ≠ e.version) :
    step prep s (.delete k (some w)) = (s, .unit) :=
  step_delete_stale prep s k w e hc hw hstale

/-- The corner of `if version and …`: an empty-string version is falsy, so such a delete is
    unconditional — it removes whatever version is cached.  (This is what the code does; the property
    speaks of "a delete that names a stale version", and `""` names none.) -/
theorem empty_version_delete_is_unconditional (s : State σ ρ) (k : Key) :
    step prep s (.delete k (some "")) = step prep s (.delete k none) := by
  cases hf : find? s.cache k with
  | none => rw [step_delete_keep prep s k _ (by simp [hf]), step_delete_keep prep s k _ (by simp [hf])]
  | some e => rw [step_delete_drop prep s k _ e hf rfl, step_delete_drop prep s k _ e hf rfl]

/-- deleting what is not cached does nothing -/
theorem delete_absent_noop (s : State σ ρ) (k : Key) (version : Option String)
    (h : find? s.cache k = none) : step prep s (.delete k version) = (s, .unit) :=
  step_delete_keep prep s k version (by simp [h])

/-! ## frame: names and kinds do not interfere -/

theorem other_keys_untouched (s : State σ ρ) (op : Op σ) (k' : Key)
    (h : match op with
      | .offer k _ _ _ _ => k ≠ k'
      | .delete k _ => k ≠ k'
      | .deleteMeta k _ => k ≠ k'
      | _ => True) :
    find? (step prep s op).1.cache k' = find? s.cache k' :=
  find_step_of_ne prep s op k' fun e => by
    cases op with
    | offer k => exact h (Option.some.inj e)
    | delete k => exact h (Option.some.inj e)
    | deleteMeta k => exact h (Option.some.inj e)
    | _ => cases e

/-! ## identity: serials of cached entries are distinct, so "same serial" is "same object" -/

/-- after any history every cached entry carries the serial of an earlier preparer call, and two
    different keys never share one -/
theorem serials_identify (ops : List (Op σ)) :
    let s := run prep (init : State σ ρ) ops
    (∀ k e, find? s.cache k = some e → e.serial < s.calls) ∧
    (∀ k k' e e', find? s.cache k = some e → find? s.cache k' = some e' → e.serial = e'.serial → k = k') :=
  run_induction prep (P := SerialsOk) ops (fun _ op _ h => serialsOk_step prep h op) init
    ⟨fun k e h => by simp [init, find?] at h, fun k k' e e' h => by simp [init, find?] at h⟩

/-! ## the hypotheses are satisfiable: a concrete history -/

/-- a preparer that fails on odd specs -/
def demoPrep : Nat → String → Nat → PrepResult (String × Nat) :=
  fun _ name spec => if spec % 2 = 1 then .failed (name, spec) else .ok (name, spec)

/-- versions going back and forth, a failing preparation, a stale delete, a delete, a re-offer of an
    old version: prepared exactly when the version differs from the cached one -/
example :
    (outs demoPrep init
      [.offer (0, "a") (some "1") 10 none false, .offer (0, "a") (some "1") 12 none false,
       .offer (0, "a") (some "2") 13 none true, .lookup (0, "a"), .offer (1, "a") (some "2") 20 none false,
       .offer (0, "a") (some "1") 14 none false, .delete (0, "a") (some "2"), .lookup (0, "a"),
       .delete (0, "a") (some ""), .lookup (0, "a"), .offer (0, "a") (some "1") 16 none false,
       .offer (0, "a") none 18 none false, .lookup (1, "a"), .deleteMeta (1, "a") (some "9"),
       .lookup (1, "a")]).map
      (fun o => match o with
        | .returned _ n p => (n, p)
        | .raisedCycle _ n => (n, true)
        | .found (some (_, n)) => (n, false)
        | _ => (99, false)) =
    [(0, true), (0, false), (1, true), (1, false), (2, true), (3, true), (99, false), (3, false),
     (99, false), (99, false), (4, true), (99, false), (2, false), (99, false), (99, false)] := by decide

example : Quiet (σ := Nat) (0, "a") "1" (.delete (0, "a") (some "2")) := .inr ⟨"2", rfl, by decide, by decide⟩

example : Quiet (σ := Nat) (0, "a") "1" (.elapse 86400) := trivial

/-- a failed preparation is served for its version after a day as after a second -/
example :
    (outs demoPrep init
      [.offer (0, "a") (some "1") 11 none false, .elapse 1, .offer (0, "a") (some "1") 11 none false,
       .elapse 86400, .offer (0, "a") (some "1") 13 none false, .lookup (0, "a")]).map
      (fun o => match o with
        | .returned _ n p => (n, p)
        | .found (some (_, n)) => (n, false)
        | _ => (99, false)) =
    [(0, true), (99, false), (0, false), (99, false), (0, false), (0, false)] := by decide

end Koreo.C15
