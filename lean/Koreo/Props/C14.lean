/-
  C14 — Static reference analysis finds every named dependency.
  Property theorems only; helper lemmas are in `Koreo/Lemmas/CelAst.lean`,
  `Koreo/Lemmas/CelAstConservative.lean`, `Koreo/Lemmas/WorkflowPrep.lean` and
  `Koreo/Lemmas/PrepToWorkflow.lean`, the probe-table facts shared with C20 in
  `Koreo/Lemmas/CelTables.lean`.
  Models: `Koreo/CelAst.lean` (celpy parse trees, `extract_argument_structure`, the name patterns),
  `Koreo/WorkflowPrep.lean` (`_load_step`, `_load_steps`, `_load_logic_switch`, `_prepare_overlays`,
  `prepare_function_test`) — hand transcriptions of the REPAIRED sources (fix F5).
  `Koreo/Gen/CelTables.lean` is regenerated from the sources on every run.
-/
import Koreo.Lemmas.WorkflowPrep
import Koreo.Lemmas.PrepToWorkflow
import Koreo.Lemmas.CelAstConservative
import Koreo.Lemmas.CelTables

namespace Koreo.C14
open Koreo.CelAst Koreo.WorkflowPrep

/-! ## the model agrees with the real code on a probed, complete fact table -/

/-- the probes ran (the code under test could be imported and called; the grammar options are the expected ones) -/
theorem extraction_ok : Koreo.Gen.CelTables.extractionOk = true := by decide

/-- On every probe tree — every node type at every position the reference extractor looks at (visited node,
    receiver of a member access, of a call, of an index, the index expression, the child of a `primary`, the
    `children[0]` descent), every literal token type, every child count, and the parsed odd-receiver expressions —
    the model returns exactly the key set the real `extract_argument_structure` returned (or raises where it raised).
    The table is regenerated by calling the real function, so a refactor that keeps its behaviour keeps this
    theorem, and a change of what is handled where breaks it. -/
theorem extractor_probes_match_source :
    Koreo.Gen.CelTables.probes.all (fun p => probeAgrees p.1 p.2) = true := probes_agree

/-- the probe table leaves no (position, node type) pair out -/
theorem probes_cover_every_position :
    probePositions.all (fun pos => allKinds.all fun k => Koreo.Gen.CelTables.probeCoverage.contains (pos, k)) = true :=
  probes_cover

theorem allKinds_complete (k : Kind) : k ∈ allKinds := by
  -- `allKinds` lists the constructors in their order
  have : allKinds[k.ctorIdx]? = some k := by cases k <;> rfl
  exact List.mem_of_getElem? this

/-- for every probed expression placed in a step's `inputs`, the real `prepare_workflow` recorded exactly the
    dependencies (or the error class) and the parent properties the model computes — this ties `stepsMatch` /
    `parentMatch`, `stepDeps` and the order check to the source by behaviour, not by the text of the patterns -/
theorem name_probes_match_source :
    Koreo.Gen.CelTables.nameProbes.all
      (fun p => nameProbeAgrees Koreo.Gen.CelTables.knownLabels p.1 p.2.1 p.2.2) = true := by decide +kernel

/-! ## every statically named step is found -/

/-- Wherever `steps.n` or `steps["n"]` occurs in an expression — operand, branch, receiver,
    macro body, call argument, list / map / message literal, index expression, at any depth —
    the label `n` is among the names the analysis returns. -/
theorem static_ref_found {e : Cel} {n : String} {ks : List String}
    (h : StaticRef e n) (hx : extract e = .ok ks) : n ∈ ks.filterMap stepsName :=
  static_ref_dep hx h

/-- the same through the code path the workflow preparation uses (`stepDeps`) -/
theorem static_ref_is_dependency {e : Cel} {n : String} {ks : List String}
    (h : StaticRef e n) (hx : extract e = .ok ks) : n ∈ stepDeps ks :=
  static_ref_found h hx

/-- the extractor names a reference node `steps.<label>` and visits it whatever surrounds it
    (this is why skipping un-nameable shapes — fix F5 — loses no dependency) -/
theorem nested_ref_visited_on_its_own {e s : Cel} {n : String} {ks : List String}
    (hs : s ∈ e.subtrees) (hr : RefNode s n) (hx : extract e = .ok ks) : ("steps." ++ n) ∈ ks :=
  (mem_extractWith hx).2 ⟨s, hs, visit_refNode hr⟩

/-- the analysis only ever returns keys of nodes it visited (no invented dependency) -/
theorem keys_come_from_nodes {e : Cel} {ks : List String} {k : String}
    (hx : extract e = .ok ks) (hk : k ∈ ks) : ∃ s ∈ e.subtrees, visit modelDispatch s = .key k :=
  (mem_extractWith hx).1 hk

/-- Fix F5 is conservative: on **every** tree on which the extractor with the pre-repair tables
    (`unrepairedDispatch`: each of the ten `raise` statements propagates) returned a key set, the
    repaired extractor returns the same key set.  The repair only turns exceptions into results. -/
theorem fix_conservative {t : Cel} {ks : List String}
    (h : extractWith unrepairedDispatch t = .ok ks) : extract t = .ok ks := by
  rw [unrepairedDispatch_eq] at h
  exact extractWith_raising modelDispatch h

/-- …so every dependency the pre-F5 analysis recorded is still recorded, and nothing is added -/
theorem fix_keeps_dependencies {t : Cel} {ks : List String}
    (h : extractWith unrepairedDispatch t = .ok ks) :
    (extract t).toOption.map stepDeps = some (stepDeps ks) := by
  rw [fix_conservative h]; rfl

/-! ## dependencies of a step: complete, and only on earlier steps -/

/-- a field `_load_step` analyses for this step -/
def Scanned (s : StepSpec) (e : Cel) : Prop :=
  (s.ref = none ∧ ∃ sw, s.refSwitch = some sw ∧ sw.switchOn = .ast e) ∨
  s.skipIf = .ast e ∨ (∃ fe, s.forEach = some fe ∧ fe.itemIn = .ast e) ∨
  s.inputs = .ast e ∨ s.state = .ast e

/-- every label statically named in `switchOn`, `skipIf`, `forEach.itemIn`, `inputs` or `state`
    is in the prepared step's dependency set -/
theorem deps_complete {env : Env} {s : StepSpec} {known : List String} {out : StepOut} {deps : List String}
    {e : Cel} {n : String}
    (h : loadStep env s known = .ok out) (hr : out.result = .step deps)
    (hs : Scanned s e) (href : StaticRef e n) : n ∈ deps := by
  obtain ⟨_, l, acc0, acc, hl, hlok, hrun, rfl⟩ := loadStep_step h hr
  obtain ⟨k1, k2, k3, k4, hd, x1, x2, x3, x4⟩ := runStages_needed hrun
  simp only [hd, List.mem_append]
  rcases hs with ⟨hn, sw, hsw, hon⟩ | hs | ⟨fe, hfe, hin⟩ | hs | hs
  · -- switchOn: the logic loaded, otherwise no `Step` would have been built
    obtain ⟨l', _, hl', hacc⟩ := loadStepLogic_switch hn hsw hl
    cases hl'
    obtain ⟨ks, hx, rfl⟩ := hacc hlok e hon
    exact .inl (.inl (.inl (.inl (static_ref_dep hx href))))
  · exact .inl (.inl (.inl (.inr (static_ref_dep (x1 e hs) href))))
  · exact .inl (.inl (.inr (static_ref_dep (x2 fe e hfe hin) href)))
  · exact .inl (.inr (static_ref_dep (x3 e hs) href))
  · exact .inr (static_ref_dep (x4 e hs) href)

/-- a prepared step depends on already seen labels only -/
theorem deps_are_known {env : Env} {s : StepSpec} {known : List String} {out : StepOut} {deps : List String}
    (h : loadStep env s known = .ok out) (hr : out.result = .step deps) : ∀ n ∈ deps, n ∈ known :=
  (loadStep_step h hr).1

/-- a step that names a label not seen before it is not prepared as a `Step` -/
theorem step_bad_order_rejected {env : Env} {s : StepSpec} {known : List String} {out : StepOut}
    {e : Cel} {n : String}
    (h : loadStep env s known = .ok out) (hs : Scanned s e) (href : StaticRef e n) (hn : n ∉ known) :
    out.result.isError = true := by
  cases hr : out.result with
  | error c => rfl
  | step deps => exact absurd (deps_are_known h hr n (deps_complete h hr hs href)) hn

/-- Workflow level: a step naming a later, an unknown or its own label (i.e. any label that is
    not the label of a step listed before it) is recorded as an error step, and the Workflow is
    reported not ready. -/
theorem bad_order_rejected {env : Env} {pre post : List StepSpec} {s : StepSpec} {r : WfOut}
    {e : Cel} {n : String}
    (h : prepareWorkflow env (pre ++ s :: post) = .ok r)
    (hs : Scanned s e) (href : StaticRef e n) (hn : n ∉ pre.map StepSpec.lbl) :
    (∃ x, r.steps[pre.length]? = some x ∧ x.isError = true) ∧ r.ready ≠ .ok := by
  obtain ⟨hready, x, known, hx, hk, hcase⟩ := prepareWorkflow_at h
  have herr : x.isError = true := by
    rcases hcase with ⟨_, rfl⟩ | ⟨_, out, hout, rfl, _⟩
    · rfl
    · exact step_bad_order_rejected hout hs href fun hmem => hn ((hk n).1 hmem)
  exact ⟨⟨x, hx, herr⟩, hready ▸ readyOf_error (List.mem_of_getElem? hx) herr⟩

/-- …and a step that *is* prepared depends only on labels of steps listed before it -/
theorem prepared_steps_depend_on_earlier {env : Env} {pre post : List StepSpec} {s : StepSpec} {r : WfOut}
    {deps : List String}
    (h : prepareWorkflow env (pre ++ s :: post) = .ok r) (hx : r.steps[pre.length]? = some (.step deps)) :
    ∀ n ∈ deps, n ∈ pre.map StepSpec.lbl := by
  obtain ⟨_, x, known, hx', hk, hcase⟩ := prepareWorkflow_at h
  rw [hx] at hx'
  cases hx'
  rcases hcase with ⟨_, hbad⟩ | ⟨_, out, hout, hres, _⟩
  · cases hbad
  · exact fun n hn => (hk n).1 (deps_are_known hout hres.symm n hn)

/-! ## runs of preparations in one process

Whether a step names a later / unknown label is a fact about the Workflow prepared *now*: the
same step spec is fine after `base` and rejected before it, or in a Workflow without `base`.
A controller prepares many Workflows, and the same one again after every update. -/

/-- what a run answers for its `i`-th Workflow is the single preparation of that Workflow:
    nothing prepared before (or after) it in the same process has a say -/
theorem seq_history_free (env : Env) (specs : List (List StepSpec)) (i : Nat) :
    (prepareSeq env specs)[i]? = specs[i]?.map (prepareWorkflow env) := by
  simp [prepareSeq]

/-- `bad_order_rejected` for every preparation of a run, whatever preceded it -/
theorem seq_bad_order_rejected {env : Env} {specs : List (List StepSpec)} {i : Nat}
    {pre post : List StepSpec} {s : StepSpec} {r : WfOut} {e : Cel} {n : String}
    (hi : specs[i]? = some (pre ++ s :: post))
    (hr : (prepareSeq env specs)[i]? = some (.ok r))
    (hs : Scanned s e) (href : StaticRef e n) (hn : n ∉ pre.map StepSpec.lbl) :
    (∃ x, r.steps[pre.length]? = some x ∧ x.isError = true) ∧ r.ready ≠ .ok := by
  rw [seq_history_free, hi] at hr
  exact bad_order_rejected (Option.some.inj hr) hs href hn

/-- the same step spec at two places of a run: prepared as a `Step` in the `i`-th Workflow (so the
    label it names is one of the steps before it *there*), and standing in the `j`-th Workflow —
    an update of the first, or another Workflow — where that label is not the label of an earlier
    step: there it is an error step and that Workflow is not ready.  No order between `i` and `j`
    is assumed. -/
theorem moved_step_rejected {env : Env} {specs : List (List StepSpec)} {i j : Nat}
    {pre post pre' post' : List StepSpec} {s : StepSpec} {r r' : WfOut} {deps : List String}
    {e : Cel} {n : String}
    (hi : specs[i]? = some (pre ++ s :: post)) (hj : specs[j]? = some (pre' ++ s :: post'))
    (hri : (prepareSeq env specs)[i]? = some (.ok r)) (hrj : (prepareSeq env specs)[j]? = some (.ok r'))
    (hstep : r.steps[pre.length]? = some (.step deps))
    (hs : Scanned s e) (href : StaticRef e n) (hn : n ∉ pre'.map StepSpec.lbl) :
    n ∈ pre.map StepSpec.lbl ∧
      (∃ x, r'.steps[pre'.length]? = some x ∧ x.isError = true) ∧ r'.ready ≠ .ok := by
  refine ⟨?_, seq_bad_order_rejected hj hrj hs href hn⟩
  apply Decidable.byContradiction
  intro hno
  obtain ⟨⟨x, hx, herr⟩, _⟩ := seq_bad_order_rejected hi hri hs href hno
  rw [hstep] at hx
  cases hx
  cases herr

/-! ## a Workflow reported ready is well-formed in the sense C01 / C02 assume -/

open Koreo.PrepToWorkflow in
/-- `Koreo.Workflow.Workflow.WF` (distinct labels, every dependency names an earlier step) is the
    standing hypothesis of the run-time theorems of C01 / C02.  It holds of every Workflow that
    `prepare_workflow` reports ready (`steps_ready` Ok), translated into the run-time model with its
    labels and the dependency sets `_load_step` recorded — whatever the translation `tr` of the
    (opaque) expressions. -/
theorem prepared_ready_implies_WF {env : Env} {spec : List StepSpec} {w : WfOut}
    (tr : Cel → Koreo.Workflow.Expr) (name : String)
    (h : prepareWorkflow env spec = .ok w) (hready : w.ready = .ok) :
    (toWorkflow tr name spec w).WF = true := by
  cases spec with
  | nil => cases h; cases hready
  | cons s0 rest =>
    obtain ⟨res, pp, hl, hr, _⟩ := prepareWorkflow_ok h (List.cons_ne_nil _ _)
    exact loop_wfSteps tr [] hl (readyOf_ok (hr ▸ hready))

open Koreo.PrepToWorkflow in
/-- …and the translation is faithful on what `WF` talks about: every step is kept, in order, under
    its label (so `WF` is not about an emptied workflow) -/
theorem translation_keeps_steps {env : Env} {spec : List StepSpec} {w : WfOut}
    (tr : Cel → Koreo.Workflow.Expr) (name : String) (h : prepareWorkflow env spec = .ok w) (hne : spec ≠ []) :
    Koreo.Workflow.labels (toWorkflow tr name spec w).steps = spec.map StepSpec.lbl := by
  obtain ⟨res, pp, hl, _, _⟩ := prepareWorkflow_ok h hne
  exact toSteps_labels tr spec _ (loadStepsLoop_length hl)

/-! ## everything a definition names is watched -/

/-- a Function or Workflow the step names as its Logic -/
def Names (s : StepSpec) (ref : Ref) : Prop :=
  (s.ref = some ref ∧ s.refSwitch = none) ∨
  (s.ref = none ∧ ∃ sw, s.refSwitch = some sw ∧ (∃ t, sw.switchOn = .ast t) ∧
     (sw.cases.filter (·.isDefault)).length ≤ 1 ∧ ∃ c ∈ sw.cases, c.ref = ref)

/-- the resources `_load_step` hands back contain the named Logic: the `ref`, and **every**
    `refSwitch` case (not only the default or the first) -/
theorem step_logic_watched {env : Env} {s : StepSpec} {known : List String} {out : StepOut} {ref : Ref}
    (h : loadStep env s known = .ok out) (hn : Names s ref) (hv : ref.valid) :
    (ref.kind, ref.name) ∈ out.resources.getD [] := by
  obtain ⟨logic, acc0, hl⟩ := loadStep_resources h (hn.elim (fun h => .inr h.2) fun h => .inl h.1)
  generalize out.resources = res at hl ⊢
  rcases hn with ⟨h1, _⟩ | ⟨h1, sw, h2, ⟨t, ht⟩, hdef, c, hc, rfl⟩
  · rw [loadStepLogic_ref h1] at hl
    cases hl
    rw [loadLogic_valid hv]
    exact List.mem_singleton.2 rfl
  · obtain ⟨l, hls, _⟩ := loadStepLogic_switch h1 h2 hl
    exact loadLogicSwitch_watched hls ht hdef hc hv

/-- Workflow level: the Logic of every step (whose label is not a repetition of an earlier one),
    including every `refSwitch` case, is among the subscriptions `prepare_workflow` returns. -/
theorem every_named_logic_watched {env : Env} {pre post : List StepSpec} {s : StepSpec} {r : WfOut} {ref : Ref}
    (h : prepareWorkflow env (pre ++ s :: post) = .ok r)
    (hlbl : s.lbl ∉ pre.map StepSpec.lbl) (hn : Names s ref) (hv : ref.valid) :
    (ref.kind, ref.name) ∈ r.watched := by
  obtain ⟨_, x, known, _, hk, hcase⟩ := prepareWorkflow_at h
  rcases hcase with ⟨hdup, _⟩ | ⟨_, out, hout, _, hsub⟩
  · exact absurd ((hk _).1 hdup) hlbl
  · exact hsub _ (step_logic_watched hout hn hv)

/-- ResourceFunction: the ValueFunction of every `overlayRef` entry (whose `skipIf` compiled and
    which has no inline `overlay`) is among the subscriptions `prepare_resource_function` returns. -/
theorem overlay_functions_watched {overlays : List OverlaySpec} {o : OverlaySpec} {n : String} {w : List Res}
    (h : rfWatched true overlays = some w) (ho : o ∈ overlays)
    (hskip : o.skipIf ≠ .parseFail) (hinl : o.hasInline = false) (hname : o.refName = some n) :
    ("ValueFunction", n) ∈ w := by
  rw [rfWatched_some h]
  exact overlayWatched_mem ho hskip hinl hname

/-- FunctionTest: whenever `prepare_function_test` returns a prepared test, the function under
    test is watched, and so is every template name that could be resolved. -/
theorem function_under_test_watched {fn : Ref} {templates : List String} {w : List Res} {ok : Bool}
    (h : ftWatched fn ok templates = some w) :
    (fn.kind, fn.name) ∈ w ∧ ∀ t ∈ templates, ("ResourceTemplate", t) ∈ w := by
  rw [ftWatched_some h]
  exact ⟨List.mem_cons_self, fun t ht => List.mem_cons_of_mem _ (List.mem_map.2 ⟨t, ht, rfl⟩)⟩

open Cel in
/-- `steps.a.b + has(inputs.x.map(i, steps["cfg"]))`-like shapes: a reference inside a macro body
    inside a call argument, next to a nested member access -/
def sample : Cel :=
  liftMember (member (primary (identArg "has" [
    liftMember (member (memberDotArg (member (memberDot (var "inputs") "x")) "map" [
      liftMember (var "i"),
      liftMember (member (memberIndex (var "steps") (litExpr .STRING_LIT "\"cfg\"")))]))])))

example : extract sample = .ok ["inputs.x", "steps.cfg"] := by decide +kernel
example : LabelOk "cfg" := by decide

example : StaticRef sample "cfg" := by
  have base : StaticRef (Cel.memberIndex (Cel.var "steps")
      (Cel.litExpr .STRING_LIT (String.ofList ('"' :: "cfg".toList ++ ['"'])))) "cfg" :=
    .index "cfg" '"' (by decide +kernel) (Or.inl rfl)
  have e : String.ofList ('"' :: "cfg".toList ++ ['"']) = "\"cfg\"" := by decide +kernel
  rw [e] at base
  unfold sample Cel.liftMember Cel.expr1 Cel.or1 Cel.and1 Cel.rel1 Cel.add1 Cel.mul1 Cel.unaryMember
    Cel.member Cel.primary Cel.identArg Cel.memberDotArg
  simp only [List.isEmpty_cons, Bool.false_eq_true, if_false]
  have c1 : ∀ {k c cs n}, StaticRef c n → StaticRef (.node k (c :: cs)) n :=
    fun h => .inside _ _ _ _ List.mem_cons_self h
  have c2 : ∀ {k a c cs n}, StaticRef c n → StaticRef (.node k (a :: c :: cs)) n :=
    fun h => .inside _ _ _ _ (List.mem_cons_of_mem _ List.mem_cons_self) h
  have c3 : ∀ {k a b c cs n}, StaticRef c n → StaticRef (.node k (a :: b :: c :: cs)) n :=
    fun h => .inside _ _ _ _ (List.mem_cons_of_mem _ (List.mem_cons_of_mem _ List.mem_cons_self)) h
  -- expr … unary, member, primary, ident_arg → its exprlist → first argument
  refine c1 (c1 (c1 (c1 (c1 (c1 (c1 (c1 (c1 (c2 (c1 ?_))))))))))
  -- expr … unary, member, member_dot_arg → its exprlist → second argument (the macro body)
  refine c1 (c1 (c1 (c1 (c1 (c1 (c1 (c1 (c3 (c2 ?_)))))))))
  -- expr … unary, member → the member_index node
  exact c1 (c1 (c1 (c1 (c1 (c1 (c1 (c1 base)))))))

/-- a receiver the extractor cannot name (`f(steps.a).b`) is skipped, the reference inside it found -/
example : extract (Cel.liftMember (Cel.member (Cel.memberDot
    (Cel.member (Cel.primary (Cel.identArg "f" [Cel.liftMember (Cel.member (Cel.memberDot (Cel.var "steps") "a"))]))) "b")))
    = .ok ["steps.a"] := by decide

example : stepsName "steps.a.b" = some "a" := by decide
example : stepsName "steps2.x" = none := by decide
example : parentName "parent.spec.size" = some "spec.size" := by decide +kernel

/-- a two-step workflow whose first step names the second: rejected -/
example :
    (prepareWorkflow (fun _ => .ready false [])
      [{ label := some "one", ref := some ⟨"ValueFunction", "f"⟩, refSwitch := none, skipIf := .absent,
         forEach := none, state := .absent,
         inputs := .ast (Cel.liftMember (Cel.member (Cel.memberDot (Cel.var "steps") "two"))) },
       { label := some "two", ref := some ⟨"ValueFunction", "g"⟩, refSwitch := none, skipIf := .absent,
         forEach := none, state := .absent, inputs := .absent }]).toOption.map (fun r => (r.ready, r.watched))
    = some (.permFail, [("ValueFunction", "f"), ("ValueFunction", "g")]) := by decide +kernel

/-- a ready two-step workflow, translated: labels and recorded dependencies arrive in the run-time model -/
example :
    ((prepareWorkflow (fun _ => .ready false [])
      [{ label := some "one", ref := some ⟨"ValueFunction", "f"⟩, refSwitch := none, skipIf := .absent,
         forEach := none, state := .absent, inputs := .absent },
       { label := some "two", ref := some ⟨"ValueFunction", "g"⟩, refSwitch := none, skipIf := .absent,
         forEach := none, state := .absent,
         inputs := .ast (Cel.liftMember (Cel.member (Cel.memberDot (Cel.var "steps") "one"))) }]).toOption.map
      fun w => (w.ready, (Koreo.PrepToWorkflow.toSteps (fun _ => .bad)
        [{ label := some "one", ref := some ⟨"ValueFunction", "f"⟩, refSwitch := none, skipIf := .absent,
           forEach := none, state := .absent, inputs := .absent },
         { label := some "two", ref := some ⟨"ValueFunction", "g"⟩, refSwitch := none, skipIf := .absent,
           forEach := none, state := .absent,
           inputs := .ast (Cel.liftMember (Cel.member (Cel.memberDot (Cel.var "steps") "one"))) }]
        w.steps).map fun s => (s.label, s.deps)))
    = some (.ok, [("one", []), ("two", ["one"])]) := by decide +kernel

def seqOne : StepSpec :=
  { label := some "one", ref := some ⟨"ValueFunction", "f"⟩, refSwitch := none, skipIf := .absent,
    forEach := none, state := .absent, inputs := .absent }

def seqTwo : StepSpec :=
  { label := some "two", ref := some ⟨"ValueFunction", "g"⟩, refSwitch := none, skipIf := .absent,
    forEach := none, state := .absent,
    inputs := .ast (Cel.liftMember (Cel.member (Cel.memberDot (Cel.var "steps") "one"))) }

/-- a run of two preparations: `[one, two]` with `two` naming `one` is ready; the update `[two, one]`
    with the very same step specs is not, and its first step is an error step -/
example :
    (prepareSeq (fun _ => .ready false []) [[seqOne, seqTwo], [seqTwo, seqOne]]).map
        (fun x => x.toOption.map fun r => (r.ready, r.steps.map StepR.isError))
      = [some (.ok, [false, false]), some (.permFail, [true, false])] := by decide +kernel

end Koreo.C14
