/-
  C19 — FunctionTest verdicts are sound: a case passes iff its assertion really holds.
  Property theorems only.  Model: `Koreo/ExactCompare.lean` (the runner's own comparator) and the
  verdict functions of `Koreo/FunctionTest.lean`; specification `EqMod` and helper lemmas in
  `Koreo/Lemmas/ExactCompare.lean`, `Koreo/Lemmas/FunctionTest.lean`.
  `Koreo/Gen/FtConsts.lean` is regenerated from the source on every run.

  The model is of the code REPAIRED by fixes/F6-runner-typed-set.diff, fixes/F8-strip-annotation.diff
  and fixes/F9-runner-map-directed-type.diff; the unrepaired behaviours are kept as `setMatchLegacy`
  and `stripLegacy`, and the witness theorems below show on the corpus inputs why each clause is
  false without the repair.
-/
import Koreo.Lemmas.FunctionTest
import Koreo.Gen.FtConsts

namespace Koreo.C19
open Koreo JVal Koreo.Exact Koreo.FT

/-! ## the model's constants are the ones of the source tree under test -/

theorem extraction_ok : Koreo.Gen.FtConsts.extractionOk = true := by decide

theorem last_applied_matches_source : Koreo.Gen.FtConsts.lastApplied = Exact.lastApplied := rfl

/-- `KOREO_DIRECTIVE_KEYS` is the set the model ignores as keys -/
theorem directive_keys_match_source :
    Koreo.Gen.FtConsts.directiveKeys = [compareAsMap, compareAsSet, compareLastApplied] ∧
    ∀ k, isDirective k = true ↔ k ∈ [compareAsMap, compareAsSet, compareLastApplied] := by
  refine ⟨rfl, fun k => ?_⟩
  -- the model lists the same three keys in another order
  rw [isDirective, List.contains_iff_mem]
  simp only [directiveKeys, List.mem_cons, List.mem_nil_iff, or_false]
  exact or_left_comm

/-- the directives `_validate_dict_match` reads are the two the model dispatches on -/
theorem dict_match_directives_match_source :
    ∀ k ∈ Koreo.Gen.FtConsts.dictMatchDirectives, k = compareAsSet ∨ k = compareAsMap := by decide +kernel

theorem key_separator_matches_source : ∀ s ∈ Koreo.Gen.FtConsts.keySeps, s = Exact.keySep := by decide

/-! ## the exact comparator -/

/-- The comparator accepts exactly the actual values that equal the expectation modulo the compare
    directives written in the expectation — nothing missing, nothing unexpected, bool ≠ number,
    set-directed lists as sets of typed scalars, map-directed lists as keyed collections. -/
theorem exact_match_iff (t a : JVal) (h : DirectivesWF t) : exactMatch t a = true ↔ EqMod t a :=
  em_iff t a h

/-- without directives `EqMod` is plain typed equality of maps: same keys, equal values -/
theorem eqmod_plain_maps (t a : List (String × JVal)) (hn : noDirO t = true) :
    EqMod (.obj t) (.obj a) ↔
      (∀ k, isDirective k = false → ((lookup k t).isSome ↔ (lookup k a).isSome)) ∧
      (∀ k v w, lookup k t = some v → lookup k a = some w → EqMod v w) :=
  eqmod_obj_noDir hn

/-- a missing key fails -/
theorem missing_key_fails (t a : List (String × JVal)) (k : String) (v : JVal)
    (h : DirectivesWF (.obj t)) (hd : isDirective k = false)
    (ht : lookup k t = some v) (ha : lookup k a = none) : exactMatch (.obj t) (.obj a) = false :=
  Bool.eq_false_iff.2 fun hm => by
    simpa [ht, ha] using eqmod_obj_keys ((exact_match_iff _ _ h).mp hm) hd

/-- an unexpected key fails -/
theorem unexpected_key_fails (t a : List (String × JVal)) (k : String) (w : JVal)
    (h : DirectivesWF (.obj t)) (hd : isDirective k = false)
    (ht : lookup k t = none) (ha : lookup k a = some w) : exactMatch (.obj t) (.obj a) = false :=
  Bool.eq_false_iff.2 fun hm => by
    simpa [ht, ha] using eqmod_obj_keys ((exact_match_iff _ _ h).mp hm) hd

/-- bool/number strictness at a leaf, numbers by value -/
theorem leaf_strictness :
    exactMatch (.int 1) (.bool true) = false ∧ exactMatch (.bool false) (.int 0) = false ∧
    exactMatch (.bool true) (.flt 8) = false ∧ exactMatch (.int 1) (.flt 8) = true ∧
    exactMatch (.int 1) (.str "1") = false ∧ exactMatch .null (.bool false) = false := by decide

/-- numeric leaves are compared EXACTLY — no tolerance: two numbers match iff they are the same rational
    (floats are eighths in the model; an int `n` is `8n` eighths) -/
theorem number_leaves_exact (a b : Int) :
    (exactMatch (.flt a) (.flt b) = true ↔ a = b) ∧ (exactMatch (.int a) (.int b) = true ↔ a = b) ∧
    (exactMatch (.int a) (.flt b) = true ↔ a * 8 = b) ∧ (exactMatch (.flt a) (.int b) = true ↔ a = b * 8) := by
  refine ⟨?_, ?_, ?_, ?_⟩ <;> rw [exactMatch_scalar _ _ rfl] <;> simp [scalarEq]

/-- … in particular neighbours that are relatively close (1 part in 10¹⁰) differ:
    10737418240.0 vs 10737418241.0, and the int 2⁴⁰ vs the float 2⁴⁰ + 1/8 -/
theorem close_numbers_differ :
    exactMatch (.flt 85899345920) (.flt 85899345928) = false ∧
    exactMatch (.int 1099511627776) (.flt 8796093022209) = false ∧
    exactMatch (.int 1099511627776) (.flt 8796093022208) = true := by decide

/-- the directives are part of the expectation on EVERY run: the same expectation without them gives
    another verdict, so a judge that consumes them while judging is wrong from the second run on
    (the runs themselves are values in this model; that a run leaves the prepared assertions
    untouched is checked on the implementation by re-running prepared FunctionTests) -/
theorem directives_needed_on_every_run :
    let t := JVal.obj [(compareAsSet, .arr [.str "tags"]), ("tags", .arr [.str "b", .str "a"])]
    let a := JVal.obj [("tags", .arr [.str "a", .str "b"])]
    exactMatch t a = true ∧ exactMatch (strip t) a = false := by decide +kernel

/-- the repaired set comparison decides `SetEq` -/
theorem set_match_iff (ts as : List JVal) : setMatch ts as = true ↔ SetEq ts as := setMatch_iff ts as

/-- F6 (corpus/C19/f6-set-bool-number.json).  Full statement for the UNREPAIRED set comparison:
      `∀ ts as, setMatchLegacy ts as = true ↔ SetEq ts as`
    It is false: Python set equality conflates `True`/`1`. -/
theorem legacy_set_conflates_bool_number :
    setMatchLegacy [.int 1, .int 2] [.bool true, .int 2] = true ∧
    ¬ SetEq [.int 1, .int 2] [.bool true, .int 2] ∧
    setMatch [.int 1, .int 2] [.bool true, .int 2] = false := by
  refine ⟨by decide, ?_, by decide⟩
  rw [← setMatch_iff]; decide

/-! ## the four verdicts -/

/-- expectReturn passes iff the Function returned Ok with a value equal to the expected one -/
theorem return_pass_iff (e : JVal) (r : FnResult) (h : DirectivesWF e) :
    verdict (.ret e) r = true ↔ ∃ v, r.out = .ok v ∧ EqMod e v := by
  simp only [verdict_ret, returnVerdict_iff, exact_match_iff e _ h]

/-- expectResource passes iff a request reached the mock, the outcome is a Retry, and the object the
    mock holds afterwards equals the expected one exactly (both without the last-applied annotation
    and without an annotations map that is empty). -/
theorem resource_pass_iff (e : JVal) (r : FnResult) (h : DirectivesWF e) :
    verdict (.resource e) r = true ↔
      (∃ d m, r.out = .retry d m) ∧
      ∃ m, r.eff.materialized = some m ∧ EqMod (stripLastApplied e) (stripLastApplied m) := by
  simp only [verdict_resource, resourceVerdict_iff, exact_match_iff _ _ (wf_stripLastApplied e h)]

/-- … and with an expectation that names at least one ordinary key, a create or patch was attempted -/
theorem resource_pass_requires_write (e : List (String × JVal)) (r : FnResult) (k : String) (v : JVal)
    (h : DirectivesWF (.obj e))
    (hk : isDirective k = false) (hv : ∃ e', stripLastApplied (.obj e) = .obj e' ∧ lookup k e' = some v)
    (hp : verdict (.resource (.obj e)) r = true) : ∃ m, r.eff = .wrote m := by
  obtain ⟨out, eff⟩ := r
  obtain ⟨_, m, hm, em⟩ := (resource_pass_iff _ _ h).mp hp
  cases eff with
  | wrote m' => exact ⟨m', rfl⟩
  | none => cases hm
  | deleted =>
    -- a DELETE leaves `{}`, which lacks the key `k` the expectation names
    cases hm
    obtain ⟨e', he', hl⟩ := hv
    rw [he'] at em
    simpa [hl] using eqmod_obj_keys (a := []) em hk

/-- expectDelete passes iff a delete was (or was not) issued as stated -/
theorem delete_pass_iff (b : Bool) (r : FnResult) :
    verdict (.delete b) r = true ↔ (r.eff = .deleted ↔ b = true) := by
  exact deleteVerdict_iff b r.eff

/-- class of an outcome / of an expected outcome -/
def outCls : Out → Nat
  | .ok _ => 0 | .depSkip _ => 1 | .skip _ => 2 | .retry _ _ => 3 | .permFail _ => 4
def expCls : Expect → Nat
  | .ok => 0 | .depSkip _ => 1 | .skip _ => 2 | .retry _ _ => 3 | .permFail _ => 4
def outMsg : Out → String
  | .ok _ => "" | .depSkip m => m.getD "" | .skip m => m.getD "" | .retry _ m => m.getD "" | .permFail m => m.getD ""
def expMsg : Expect → String
  | .ok => "" | .depSkip m => m | .skip m => m | .retry m _ => m | .permFail m => m

/-- the expected message occurs in the actual one, case-insensitively -/
def MsgContained (e : Expect) (o : Out) : Prop := lowerChars (expMsg e) <:+: lowerChars (outMsg o)

/-- a Retry expectation with a non-zero delay needs exactly that delay -/
def DelayOk : Expect → Out → Prop
  | .retry _ ed, .retry ad _ => ed = 0 ∨ ed = ad
  | _, _ => True

theorem msgOk_iff (e : String) (a : Option String) :
    msgOk e a = true ↔ lowerChars e <:+: lowerChars (a.getD "") :=
  Koreo.FT.msgOk_iff e a

/-- expectOutcome passes iff the outcome has the same class, contains the message
    (case-insensitively) and, for a Retry with a non-zero expected delay, has that delay -/
theorem outcome_pass_iff (e : Expect) (r : FnResult) :
    verdict (.outcome e) r = true ↔
      expCls e = outCls r.out ∧ MsgContained e r.out ∧ DelayOk e r.out := by
  rw [verdict_outcome]
  cases e <;> cases r.out <;>
    simp [outcomeVerdict, expCls, outCls, MsgContained, DelayOk, expMsg, outMsg, msgOk_iff]

/-! ## truth passes -/

/-- the expectation copied from the actual value is accepted -/
theorem truth_passes (a : JVal) (hw : DirectivesWF a) (hn : noDir a = true) : exactMatch a a = true :=
  (exact_match_iff a a hw).mpr (eqmod_refl a hn)

theorem return_truth_passes (v : JVal) (hw : DirectivesWF v) (hn : noDir v = true) (eff : Effect) :
    verdict (.ret v) ⟨.ok v, eff⟩ = true :=
  (returnVerdict_iff v (.ok v)).2 ⟨v, rfl, truth_passes v hw hn⟩

/-- any expectation with the normal form of the materialised object passes — the object itself,
    or that object with an empty `annotations` map written out -/
theorem resource_truth_passes (e m : JVal) (d : Int) (msg : Option String)
    (he : stripLastApplied e = stripLastApplied m)
    (hw : DirectivesWF (stripLastApplied m)) (hn : noDir (stripLastApplied m) = true) :
    verdict (.resource e) ⟨.retry d msg, .wrote m⟩ = true :=
  (resourceVerdict_iff e (.wrote m) (.retry d msg)).2
    ⟨⟨d, msg, rfl⟩, m, rfl, by rw [he]; exact truth_passes _ hw hn⟩

theorem delete_truth_passes (r : FnResult) : verdict (.delete r.eff.deleteCalled) r = true := by
  rw [verdict_delete, deleteVerdict]; exact beq_self_eq_true _

/-- the expectation that restates the outcome (class, whole message, delay) passes -/
def expectOf : Out → Expect
  | .ok _ => .ok
  | .depSkip m => .depSkip (m.getD "")
  | .skip m => .skip (m.getD "")
  | .retry d m => .retry (m.getD "") d
  | .permFail m => .permFail (m.getD "")

theorem outcome_truth_passes (r : FnResult) : verdict (.outcome (expectOf r.out)) r = true := by
  rw [outcome_pass_iff]
  cases r.out <;> simp [expectOf, expCls, outCls, MsgContained, DelayOk, expMsg, outMsg]

/-! ## any single deviation fails -/

/-- comparator level: a changed or retyped leaf, a dropped key, an added key, two swapped list
    elements — at any depth — is never accepted (`a` the actual value, `a'` the deviating expectation) -/
theorem single_deviation_fails (a a' : JVal) (d : Dev a a')
    (hw : DirectivesWF a) (hw' : DirectivesWF a') (hn : noDir a = true) (hn' : noDir a' = true) :
    exactMatch a' a = false :=
  Bool.eq_false_iff.2 fun hm => dev_not_eqmod d hw hn hn' ((exact_match_iff a' a hw').mp hm)

theorem other_class_fails (e : Expect) (r : FnResult) (h : expCls e ≠ outCls r.out) :
    verdict (.outcome e) r = false :=
  Bool.eq_false_iff.2 fun hv => h ((outcome_pass_iff e r).mp hv).1

theorem other_delay_fails (m : String) (ed ad : Int) (am : Option String) (eff : Effect)
    (h0 : ed ≠ 0) (h : ed ≠ ad) : verdict (.outcome (.retry m ed)) ⟨.retry ad am, eff⟩ = false :=
  Bool.eq_false_iff.2 fun hv => ((outcome_pass_iff _ _).mp hv).2.2.elim h0 h

theorem non_contained_message_fails (e : Expect) (r : FnResult) (h : ¬ MsgContained e r.out) :
    verdict (.outcome e) r = false :=
  Bool.eq_false_iff.2 fun hv => h ((outcome_pass_iff e r).mp hv).2.1

theorem flipped_delete_fails (r : FnResult) : verdict (.delete (!r.eff.deleteCalled)) r = false := by
  rw [verdict_delete, deleteVerdict]; cases r.eff.deleteCalled <;> rfl

theorem resource_without_request_fails (e : JVal) (o : Out) : verdict (.resource e) ⟨o, .none⟩ = false :=
  Bool.eq_false_iff.2 fun hv => by
    obtain ⟨-, m, hm, -⟩ := (resourceVerdict_iff e .none o).1 hv
    cases hm

theorem resource_without_retry_fails (e : JVal) (eff : Effect) (o : Out) (h : outCls o ≠ 3) :
    verdict (.resource e) ⟨o, eff⟩ = false :=
  Bool.eq_false_iff.2 fun hv => by
    obtain ⟨⟨d, m, rfl⟩, -⟩ := (resourceVerdict_iff e eff o).1 hv
    exact h rfl

theorem return_on_non_ok_fails (e : JVal) (r : FnResult) (h : outCls r.out ≠ 0) :
    verdict (.ret e) r = false :=
  Bool.eq_false_iff.2 fun hv => by
    obtain ⟨v, hr, -⟩ := (returnVerdict_iff e r.out).1 hv
    exact h (hr ▸ rfl)

/-! ## the verdict over the conversation the Function had with the per-case mock (`Koreo/MockApi.lean`)

`Effect` above is what the case's `MockApi` holds after the reconcile.  `Mock.effectOf cur cs` says what
that is for a conversation `cs` (GET / write / DELETE) with a mock created over the case's resource
`cur`: the theorems below tie the verdict to the REQUESTS, so that "the object sent" has one meaning —
the body, for a patch laid over the case's own resource with every top-level key the body names
replaced.  Nothing below the top level of the live object (its `metadata.uid`, foreign labels,
finalizers, …) is part of it unless the body says so. -/

/-- expectResource over a conversation: the outcome is a Retry and the last mutating request was
    a DELETE and the (normalised) expectation equals `{}`, or a write and the expectation equals the
    body over the case's resource (`Mock.merged`), both normalised -/
theorem conversation_resource_pass_iff (e : JVal) (h : DirectivesWF e) (cur : Option JVal)
    (cs : List Mock.Call) (out : Out) :
    verdict (.resource e) ⟨out, Mock.effectOf cur cs⟩ = true ↔
      (∃ d m, out = .retry d m) ∧
      ((Mock.lastMutation cs = some .delete ∧ EqMod (stripLastApplied e) (.obj [])) ∨
       ∃ body, Mock.lastMutation cs = some (.write body) ∧
         EqMod (stripLastApplied e) (stripLastApplied (Mock.merged cur body))) := by
  rw [resource_pass_iff e _ h]
  refine and_congr_right fun _ => ?_
  -- `{}` is its own normal form
  have h0 : stripLastApplied (.obj []) = .obj [] := rfl
  rcases Mock.effectOf_cases cur cs with ⟨hl, -, e⟩ | ⟨-, ⟨hl, e⟩ | ⟨d, hl, e⟩⟩ <;>
    simp [e, hl, Effect.materialized, h0]

/-- a conversation without a mutating request never satisfies an expectResource, whatever the case's
    resource holds (an existing object is not "a create or patch was attempted") -/
theorem conversation_of_reads_fails (e : JVal) (cur : Option JVal) (cs : List Mock.Call) (out : Out)
    (hr : cs.any Mock.Call.isMutation = false) :
    verdict (.resource e) ⟨out, Mock.effectOf cur cs⟩ = false := by
  rw [Mock.effectOf_of_none cur ((Mock.lastMutation_none_iff cs).mpr hr)]
  exact resource_without_request_fails e out

/-- PATCH (the case has a non-empty resource `b`; the body is a JSON object with unique keys — a Python
    dict): in the object the assertion is judged against, a key the body names has the BODY's value,
    whole; a key the body does not name has the live object's value -/
theorem patch_effect_lookup (b o : List (String × JVal)) (cs : List Mock.Call)
    (hb : b.isEmpty = false) (hnd : (keys o).Nodup)
    (hl : Mock.lastMutation cs = some (.write (.obj o))) :
    ∃ l, Mock.effectOf (some (.obj b)) cs = .wrote (.obj l) ∧
      (∀ k v, lookup k o = some v → lookup k l = some v) ∧
      (∀ k, lookup k o = none → lookup k l = lookup k b) := by
  have hb' : b ≠ [] := fun e => by simp [e] at hb
  refine ⟨_, by rw [Mock.effectOf_of_write _ hl, Mock.merged_obj o hb'], fun k v h => ?_, fun k h => ?_⟩ <;>
    rw [Mock.lookup_mergeTop k o b hnd, h] <;> rfl

/-- … in particular `metadata` is the map the Function sent: no member of the live object's metadata
    (uid, resourceVersion, labels or finalizers put there by someone else) is carried into the object
    that expectResource is compared with -/
theorem patch_metadata_is_the_bodys (b o : List (String × JVal)) (md : JVal) (cs : List Mock.Call)
    (hb : b.isEmpty = false) (hnd : (keys o).Nodup)
    (hl : Mock.lastMutation cs = some (.write (.obj o))) (hm : lookup "metadata" o = some md) :
    ∃ l, Mock.effectOf (some (.obj b)) cs = .wrote (.obj l) ∧ lookup "metadata" l = some md := by
  obtain ⟨l, h1, h2, _⟩ := patch_effect_lookup b o cs hb hnd hl
  exact ⟨l, h1, h2 _ _ hm⟩

/-- CREATE (no resource, or `{}`): the object judged is the body itself -/
theorem create_effect_is_body (cur : Option JVal) (body : JVal) (cs : List Mock.Call)
    (hc : truthyO cur = false) (hl : Mock.lastMutation cs = some (.write body)) :
    Mock.effectOf cur cs = .wrote body := by
  rw [Mock.effectOf_of_write cur hl, Mock.merged_of_falsy body hc]

/-- a live object with foreign metadata (uid, an injected label), a status, and a drifted spec … -/
def liveObject : JVal :=
  .obj [("apiVersion", .str "v1"), ("kind", .str "K"),
        ("metadata", .obj [("name", .str "n"), ("namespace", .str "ns"), ("uid", .str "5c1f"),
          ("labels", .obj [("app", .str "a"), ("injected-by", .str "mesh")]),
          ("annotations", .obj [(Exact.lastApplied, .str "{…}")])]),
        ("spec", .obj [("replicas", .int 1)]), ("status", .obj [("ready", .bool true)])]
/-- … the patch the Function sends for it … -/
def patchBody : JVal :=
  .obj [("apiVersion", .str "v1"), ("kind", .str "K"),
        ("metadata", .obj [("name", .str "n"), ("namespace", .str "ns"),
          ("labels", .obj [("app", .str "a")]),
          ("annotations", .obj [(Exact.lastApplied, .str "{…}")])]),
        ("spec", .obj [("replicas", .int 3)])]
/-- … and the truthful expectation with a hole for the metadata and the status -/
def patchExpectation (md : List (String × JVal)) (rest : List (String × JVal)) : JVal :=
  .obj ([("apiVersion", .str "v1"), ("kind", .str "K"), ("metadata", .obj md),
         ("spec", .obj [("replicas", .int 3)])] ++ rest)

/-- the assertion equal to (body over the live object, top-level replace) passes — with the untouched
    `status` of the live object, which the body does not name; listing a metadata member that was never
    sent (the uid, the injected label, both), or leaving the status out, fails -/
theorem patch_verdicts_on_foreign_metadata :
    let conv := [Mock.Call.get, Mock.Call.write patchBody]
    let r : FnResult := ⟨.retry 30 none, Mock.effectOf (some liveObject) conv⟩
    let sentMd := [("name", JVal.str "n"), ("namespace", .str "ns"), ("labels", .obj [("app", .str "a")])]
    let status := [("status", JVal.obj [("ready", .bool true)])]
    verdict (.resource (patchExpectation sentMd status)) r = true ∧
    verdict (.resource (patchExpectation (sentMd ++ [("uid", .str "5c1f")]) status)) r = false ∧
    verdict (.resource (patchExpectation [("name", .str "n"), ("namespace", .str "ns"),
      ("labels", .obj [("app", .str "a"), ("injected-by", .str "mesh")])] status)) r = false ∧
    verdict (.resource (patchExpectation [("name", .str "n"), ("namespace", .str "ns"), ("uid", .str "5c1f"),
      ("labels", .obj [("app", .str "a"), ("injected-by", .str "mesh")])] status)) r = false ∧
    verdict (.resource (patchExpectation sentMd [])) r = false := by decide +kernel

/-! ## F8 and F9 witnesses (corpus/C19) -/

/-- the target's `metadata.annotations: {}` and the object the Function sent for it -/
def f8Expected : JVal :=
  .obj [("apiVersion", .str "v1"), ("kind", .str "K"),
        ("metadata", .obj [("name", .str "n"), ("annotations", .obj [])])]
def f8Sent : JVal :=
  .obj [("apiVersion", .str "v1"), ("kind", .str "K"),
        ("metadata", .obj [("name", .str "n"),
          ("annotations", .obj [(Exact.lastApplied, .str "{…}")])])]

/-- F8.  Full statement for the UNREPAIRED verdict:
      `resource_truth_passes` with `stripLegacy` on the materialised side only.
    It is false on `f8Expected`/`f8Sent`: the unrepaired strip deletes the whole one-entry
    `annotations` map, so the truthful expectation (which has `annotations: {}`) is rejected.
    The repaired verdict accepts it, and also the expectation without the empty map. -/
theorem f8_legacy_rejects_truth :
    (stripLegacy f8Sent).map (exactMatch f8Expected) = some false := by decide +kernel

theorem f8_repaired_accepts_truth :
    verdict (.resource f8Expected) ⟨.retry 30 none, .wrote f8Sent⟩ = true ∧
    verdict (.resource (.obj [("apiVersion", .str "v1"), ("kind", .str "K"),
        ("metadata", .obj [("name", .str "n")])])) ⟨.retry 30 none, .wrote f8Sent⟩ = true := by decide +kernel

/-- F9 (runner): under a map-directed key the repaired comparator compares values that are not lists
    of objects plainly, so `[]` does not equal `""`/`{}` and a scalar or a list of scalars on the
    actual side is a mismatch, not a crash. -/
theorem f9_map_directed_non_lists :
    let t := JVal.obj [(compareAsMap, .obj [("l", .arr [.str "name"])]), ("l", .arr [])]
    exactMatch t (.obj [("l", .str "")]) = false ∧ exactMatch t (.obj [("l", .obj [])]) = false ∧
    exactMatch t (.obj [("l", .arr [])]) = true ∧ exactMatch t (.obj [("l", .int 7)]) = false ∧
    exactMatch t (.obj [("l", .arr [.null])]) = false := by decide +kernel

/-! ## the hypotheses are satisfiable by non-trivial values -/

def exExpected : JVal :=
  .obj [(compareAsSet, .arr [.str "tags"]),
        (compareAsMap, .obj [("ports", .arr [.str "name"])]),
        ("tags", .arr [.str "a", .int 1, .bool true]),
        ("ports", .arr [.obj [("name", .str "http"), ("port", .int 80)],
                        .obj [("name", .str "dns"), ("port", .int 53)]]),
        ("spec", .obj [("replicas", .int 3), ("paused", .bool false)])]

def exActual : JVal :=
  .obj [("spec", .obj [("paused", .bool false), ("replicas", .flt 24)]),
        ("ports", .arr [.obj [("name", .str "dns"), ("port", .int 53)],
                        .obj [("name", .str "http"), ("port", .int 80)]]),
        ("tags", .arr [.bool true, .int 1, .str "a", .str "a"])]

example : DirectivesWF exExpected := by decide +kernel
example : exactMatch exExpected exActual = true := by decide +kernel
example : EqMod exExpected exActual := (exact_match_iff _ _ (by decide +kernel)).mp (by decide +kernel)
/-- retyping one set member (`1 → true` twice) is seen -/
example : exactMatch exExpected (.obj [("spec", .obj [("paused", .bool false), ("replicas", .int 3)]),
    ("ports", .arr [.obj [("name", .str "dns"), ("port", .int 53)], .obj [("name", .str "http"), ("port", .int 80)]]),
    ("tags", .arr [.bool true, .str "a"])]) = false := by decide +kernel
example : DirectivesWF f8Expected ∧ DirectivesWF (stripLastApplied f8Sent) ∧
    noDir (stripLastApplied f8Sent) = true := by decide +kernel
example : Dev (.obj [("a", .arr [.int 1, .int 2])]) (.obj [("a", .arr [.int 2, .int 1])]) :=
  Dev.inKey (o := [("a", .arr [.int 1, .int 2])]) (k := "a") rfl
    (Dev.swap (xs := []) (zs := []) (by rw [← exact_match_iff _ _ (by decide)]; decide))
example : verdict (.outcome (.retry "creating" 0)) ⟨.retry 30 (some "Creating K:ns:n."), .none⟩ = true := by decide +kernel
example : verdict (.outcome (.retry "Creating" 31)) ⟨.retry 30 (some "Creating K:ns:n."), .none⟩ = false := by decide +kernel

end Koreo.C19
