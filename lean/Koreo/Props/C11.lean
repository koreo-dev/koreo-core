/-
  C11 — Static values in definitions reach results and resources unchanged.
  Property theorems only; helper lemmas are in `Koreo/Lemmas/Encoder.lean` and, for the static overlay
  block, in the last section of `Koreo/Lemmas/Overlay.lean`.

  Model: `Koreo/Encoder.lean` — the REPAIRED `src/koreo/cel/encoder.py` (fixes/F2-encoder.diff):
  `encodeCel`/`enc`, `encodeStr`, `quoteStr`, `escBody`, `isNumeral`; and the inverse as implemented by
  celpy 0.3.0: `lexString` (STRING_LIT / MLSTRING_LIT + `celstr`), `lexNumber` (INT_LIT / FLOAT_LIT),
  and a token-level parser `parse` for the JSON-like subset that `encode_cel` emits.
  `Koreo/Gen/EncoderTables.lean` is regenerated from the running encoder and from celpy on every run.

  Two levels: `value_roundtrip` / `encoding_is_token_text` speak of the token list `toks v`; `tokenize` is a
  character-level tokenizer for exactly the sub-language `encode_cel` emits, modelled on celpy's lark
  terminals, and `chars_roundtrip` proves tokenise-then-parse of the emitted character list for every
  value (DESIGN.md 5/C11).  What the character level ASSUMES about celpy (trusted, validated by
  harness/c11.py against real celpy's token stream on the emitted texts): the contextual lexer ignores
  WHITESPACE; tries FLOAT_LIT before INT_LIT and both before the MINUS operator, so `-5` is one INT_LIT;
  a number token is the greedy match of
  `-? DIGIT+ ("." DIGIT*)? EXP?` / `-? DIGIT* "." DIGIT+ EXP?` / `-? DIGIT+ EXP` with EXP taken only when
  complete; MLSTRING_LIT is tried before STRING_LIT and both stop at the first closing delimiter not
  consumed by an escape (`scanLong` / `scanShort`); a run `[_a-zA-Z][_a-zA-Z0-9]*` is BOOL_LIT / NULL_LIT
  exactly when it is `true` / `false` / `null`; `[ ] { } , :` are single-character tokens; the LALR
  parser builds lists and maps from that token stream as `pVal` does.

  On the unrepaired tree the clauses below were false (`a\nb`, `x"""y⏎`, keys with `"` or newline,
  `inf`, `nan`, ` 12`, `1_0`, `+5`, `١٢`; corpus/C11/*.json): there `escapes_match_source` does not
  build and the check's oracle reports the failing inputs.
-/
import Koreo.Lemmas.Encoder
import Koreo.Lemmas.Overlay
import Koreo.Gen.EncoderTables

namespace Koreo.C11
open Koreo.Encoder

/-! ## the model's tables are those of the source -/

/-- the translator could read the running encoder and celpy's table -/
theorem extraction_ok : Koreo.Gen.EncoderTables.extractionOk = true := by decide

/-- what the running `encode_cel` writes between the quotes for each ASCII character is the model's `escChar` -/
theorem escapes_match_source :
    Koreo.Gen.EncoderTables.keyBodies
      = (List.range 128).map (fun i => (escChar (Char.ofNat i)).map Char.toNat) := by decide +kernel

/-- the running encoder uses `"""` exactly for the key that contains a quote, `"` otherwise -/
theorem delimiters_match_source :
    Koreo.Gen.EncoderTables.keyDelims
      = (List.range 128).map (fun i => if hasQuote [Char.ofNat i] then 3 else 1) := by decide +kernel

/-- celpy's `CEL_ESCAPES` is the model's `escTable` -/
theorem cel_escapes_match_source :
    Koreo.Gen.EncoderTables.celEscapes = escTable.map (fun p => (p.1.toNat, p.2.toNat)) := by decide +kernel

/-! ## strings: decode ∘ encode = id, for every character list -/

/-- every non-numeral, non-expression string — whatever it contains: quotes, backslashes, newlines,
    CR, tabs, quote runs, a trailing quote or backslash, any Unicode — is read back by celpy's string
    lexer, from the text `encode_cel` writes, character for character -/
theorem string_roundtrip (s : Str) (hn : isNumeral s = false) (he : startsWithEq s = false) :
    lexString (encodeStr s) = some s := by
  rw [encodeStr_of_nonnumeral s hn he]
  exact lexString_quoteStr s

/-- … and the scanner stops exactly at the literal's own closing delimiter whatever text follows it
    (no character of the value can close the literal early or swallow what comes next) -/
theorem string_token_boundary (s rest : Str) :
    (hasQuote s = true → scanLong (escBody s ++ '"' :: '"' :: '"' :: rest) = some (s, rest)) ∧
    (hasQuote s = false → scanShort (escBody s ++ '"' :: rest) = some (s, rest)) :=
  ⟨fun _ => scanLong_escBody s rest, fun _ => scanShort_escBody s rest⟩

/-- map keys go through the same string encoder and are never numeralised or spliced:
    every key is read back exactly (also `12`, `=x`, `k"`, `k⏎`, the empty key) -/
theorem key_roundtrip (k : Str) : lexString (quoteStr k) = some k :=
  lexString_quoteStr k

/-- a quoted string is never mistaken for a number -/
theorem quoted_is_not_a_number (s : Str) : lexNumber (quoteStr s) = none :=
  lexNumber_quoteStr s

/-! ## the documented exception: decimal numerals, and nothing else -/

/-- a string that is a decimal numeral `-?digits(.digits)?([eE][+-]?digits)?` is written as it stands,
    the regex's decomposition is faithful to the text, and celpy reads the whole text as ONE number
    token whose value is the number the numeral denotes -/
theorem numeral_delivered_as_number (s : Str) (p : NumParts) (h : splitNumeral s = some p) :
    encodeStr s = s ∧ p.text = s ∧ lexNumber (encodeStr s) = some p.value := by
  have hn := isNumeral_of_split h
  have hs : encodeStr s = s := encodeStr_of_numeral hn
  exact ⟨hs, splitNumeral_text h, by rw [hs]; exact splitNumeral_lexNumber h⟩

/-- … an integer when neither a fraction nor an exponent is written, a double otherwise -/
theorem numeral_type (p : NumParts) :
    (p.fp = none → p.ex = none → p.value = .int (signed p.neg (digitsVal p.ip))) ∧
    ((p.fp ≠ none ∨ p.ex ≠ none) → ∃ m x, p.value = normDec p.neg m x) := by
  fun_cases NumParts.value p
  case case1 hex hfp => exact ⟨fun _ _ => rfl, fun h => absurd h (by simp [hex, hfp])⟩  -- digits only
  case case2 f hne => exact ⟨fun h1 h2 => (hne h1 h2).elim, fun _ => ⟨_, _, rfl⟩⟩  -- a fraction or an exponent

/-- stripping the mantissa's trailing zeros does not change the number: m'·10^x' = m·10^x -/
theorem normDec_value (neg : Bool) (m : Nat) (x : Int) :
    ∃ m' x', normDec neg m x = .dec neg m' x' ∧
      ((m = 0 ∧ m' = 0) ∨ (x ≤ x' ∧ m' * 10 ^ (x' - x).toNat = m)) :=
  normDec_spec neg m x

/-- everything else is a string: a non-numeral (`inf`, `nan`, ` 12`, `12 `, `1_0`, `+5`, `١٢`, `1.`, `.5` …)
    is written as a string literal — celpy reads no number from it, and reads the text back exactly -/
theorem nonnumeral_not_number (s : Str) (hn : isNumeral s = false) (he : startsWithEq s = false) :
    lexNumber (encodeStr s) = none ∧ lexString (encodeStr s) = some s := by
  rw [encodeStr_of_nonnumeral s hn he]
  exact ⟨lexNumber_quoteStr s, lexString_quoteStr s⟩

/-- the look-alikes named in the property are outside the exception -/
theorem lookalikes_are_not_numerals :
    isNumeral "inf".toList = false ∧ isNumeral "nan".toList = false ∧ isNumeral "Infinity".toList = false ∧
    isNumeral " 12".toList = false ∧ isNumeral "12 ".toList = false ∧ isNumeral "12\n".toList = false ∧
    isNumeral "1_0".toList = false ∧ isNumeral "+5".toList = false ∧ isNumeral "١٢".toList = false ∧
    isNumeral "1.".toList = false ∧ isNumeral ".5".toList = false ∧ isNumeral "1e".toList = false ∧
    isNumeral "0x10".toList = false ∧ isNumeral "".toList = false ∧ isNumeral "-".toList = false := by
  decide +kernel

/-! ## whole values -/

/-- the text `encode_cel` writes is exactly the concatenation of the texts of the tokens `toks v` -/
theorem encoding_is_token_text (v : JVal) : encodeCel v = String.ofList (toksText (toks v)) := by
  rw [toksText_toks]; rfl

/-- parsing the emitted tokens gives back the value as written — same structure, same keys, strings
    character for character, integers, the dyadic floats (exactly e/8), booleans, null, empty
    containers — with numeral strings replaced by their number.  Mutual induction over `JVal`. -/
theorem value_roundtrip (v : JVal) (h : noExpr v = true) : parse (toks v) = some (numeralise v) := by
  unfold parse
  have := pVal_toks v h (toks v).length [] (Nat.le_refl _)
  rw [List.append_nil] at this
  rw [this]

/-- what arrives for a float written as e/8 denotes exactly e/8 (= e·125·10⁻³) -/
theorem float_value_exact (e : Int) :
    ∃ m x, numeralise (.flt e) = .num (.dec (decide (e < 0)) m x) ∧
      ((e = 0 ∧ m = 0) ∨ (-3 ≤ x ∧ m * 10 ^ (x + 3).toNat = e.natAbs * 125)) := by
  obtain ⟨m, x, he, hv⟩ := normDec_value (decide (e < 0)) (e.natAbs * 125) (-3)
  refine ⟨m, x, by simp [numeralise, he], ?_⟩
  rcases hv with ⟨h0, hm⟩ | ⟨hle, hv⟩
  · exact Or.inl ⟨by omega, hm⟩
  · exact Or.inr ⟨hle, by simpa using hv⟩

/-- strings and keys are not touched by `numeralise` unless the string is a numeral -/
theorem numeralise_keeps_text (s : String) (hn : isNumeral s.toList = false) :
    numeralise (.str s) = .str s.toList := by
  simp [numeralise, numeraliseStr, isNumeral_false_iff.mp hn]

/-! ## character level: tokenise-then-parse of the emitted text -/

/-- ints and the dyadic floats are printed as decimal numerals, so the one numeral lemma covers
    every number token `encode_cel` writes -/
theorem numbers_print_as_numerals (n e : Int) :
    isNumeral (renderInt n) = true ∧ isNumeral (renderFlt e) = true :=
  ⟨isNumeral_renderInt n, isNumeral_renderFlt e⟩

/-- token boundaries, one clause per terminal class: followed by the end of the text or by one of
    `, ] } :`, a numeral (INT_LIT / FLOAT_LIT incl. sign, fraction, exponent), a quoted string
    (STRING_LIT / MLSTRING_LIT) and `null` / `true` / `false` are each cut off as ONE token whose text is
    exactly the text written — nothing less (`12` of `12.5e3`), nothing more (`""` + `"`, `true` + `x`) -/
theorem token_boundaries (rest : Str) (hs : sepStart rest) :
    (∀ x, isNumeral x = true → nextTok (x ++ rest) = some (.lit x, x.length)) ∧
    (∀ s, nextTok (quoteStr s ++ rest) = some (.lit (quoteStr s), (quoteStr s).length)) ∧
    (∀ w, w = nullText ∨ w = trueText ∨ w = falseText → nextTok (w ++ rest) = some (.lit w, w.length)) :=
  ⟨fun x h => nextTok_numeral x rest h hs, fun s => nextTok_quoteStr s rest hs,
   fun w h => nextTok_word w rest h hs⟩

/-- the character-level tokenizer cuts the emitted text of EVERY value into exactly the tokens `toks v`
    (mutual induction over `JVal`: unbounded nesting and width) -/
theorem tokenize_emitted (v : JVal) (h : noExpr v = true) : tokenize (enc v) = some (toks v) := by
  have := tokenize_enc v h [] sepStart_nil
  simpa [tokenize, appToks] using this

/-- tokenise-then-parse of the emitted character list gives back the value as written, numeral
    strings numeralised — for every JSON value -/
theorem chars_roundtrip (v : JVal) (h : noExpr v = true) : parseChars (enc v) = some (numeralise v) := by
  unfold parseChars
  rw [tokenize_emitted v h]
  exact value_roundtrip v h

/-- the same, stated on the `String` that `encodeCel` returns -/
theorem chars_roundtrip_string (v : JVal) (h : noExpr v = true) :
    parseChars (encodeCel v).toList = some (numeralise v) := by
  have : (encodeCel v).toList = enc v := by simp [encodeCel]
  rw [this]; exact chars_roundtrip v h

/-! ## non-vacuity: the hypotheses are met by the hard cases themselves -/

/-- `a\nb` (a literal backslash) is written `"a\\nb"` -/
example : isNumeral ['a', '\\', 'n', 'b'] = false ∧ startsWithEq ['a', '\\', 'n', 'b'] = false ∧
    encodeStr ['a', '\\', 'n', 'b'] = ['"', 'a', '\\', '\\', 'n', 'b', '"'] := by decide

/-- `x"""y⏎` is written `"""x\"\"\"y\n"""` -/
example : encodeStr ['x', '"', '"', '"', 'y', '\n']
    = ['"', '"', '"', 'x', '\\', '"', '\\', '"', '\\', '"', 'y', '\\', 'n', '"', '"', '"'] := by decide

/-- a trailing backslash and a trailing quote -/
example : encodeStr ['a', '\\'] = ['"', 'a', '\\', '\\', '"'] ∧
    encodeStr ['a', '"'] = ['"', '"', '"', 'a', '\\', '"', '"', '"', '"'] := by decide

/-- the encodings pinned by tests/koreo/cel/test_encoder.py -/
example : encodeStr "3213".toList = "3213".toList ∧ encodeStr "72.3".toList = "72.3".toList ∧
    encodeStr "".toList = "\"\"".toList ∧ encodeStr "=1 + 1".toList = "1 + 1".toList ∧
    encodeStr "a \"b\"".toList = "\"\"\"a \\\"b\\\"\"\"\"".toList := by decide +kernel

/-- a numeral: `-1.50e-3` splits into its parts and denotes −15·10⁻⁴ -/
example : (splitNumeral "-1.50e-3".toList).map NumParts.text = some "-1.50e-3".toList := by decide

/-- separators exist; and a concrete emitted text is cut into its tokens and read back -/
example : sepStart [',', 'x'] ∧ sepStart [] := ⟨sepStart_cons.mpr (.inl rfl), sepStart_nil⟩
example : parseChars (enc (.obj [("k\"", .arr [.int (-5), .flt 12, .str "1e5", .str "a\\nb", .null, .bool true, .arr [], .obj []])]))
    = some (numeralise (.obj [("k\"", .arr [.int (-5), .flt 12, .str "1e5", .str "a\\nb", .null, .bool true, .arr [], .obj []])])) :=
  chars_roundtrip _ (by decide +kernel)

/-- a nested value meeting `noExpr`, with a numeral string, a numeral-looking key, quotes in a key -/
example : noExpr (.obj [("k\"", .arr [.str "12", .str " 12", .int (-5), .flt (-13), .null, .bool true, .arr [], .obj []]),
                        ("12", .str "a\\nb")]) = true := by decide

/-! ## a static block in an overlay-type position (`return`, `overlays[].overlay`, `create.overlay`)

`_overlay_indexer` takes a written map apart into a key tree and ONE positional value list, and
`_overlay_applier` puts it together again (model: `Koreo/Overlay.lean`, C12's).  For a block whose leaves are
literals (each leaf evaluates to itself — the leaf's own journey through `encode_cel` and celpy is
`chars_roundtrip` above) laid onto a map that holds none of its top-level keys, the result is the base followed
by the block **as written**: for every key text — a key `a.b` beside the chain `a → b` are two places —, every
nesting, every leaf kind (`{}`, `[]`, `""`, `null` …).  Keys need only be distinct within each written map
(`HDO`; a Python dict cannot be otherwise). -/
section static_overlay
open Koreo.Overlay

theorem static_overlay_block_arrives (kvs base : Overlay.Fields) (h : HDO kvs)
    (fresh : ∀ k ∈ JVal.keys kvs, k ∉ JVal.keys base) :
    applier base (indexO (OSpec.ofFields kvs) 0).1 ((indexO (OSpec.ofFields kvs) 0).2.map id) = base ++ kvs := by
  rw [applier_eq_mergeO id _ (ofFields_wf kvs h) base, mapO_id]
  exact mergeO_static kvs h base fresh

/-- the ValueFunction `return` / a first overlay onto nothing: the block itself -/
theorem static_return_arrives (kvs : Overlay.Fields) (h : HDO kvs) :
    applier [] (indexO (OSpec.ofFields kvs) 0).1 ((indexO (OSpec.ofFields kvs) 0).2.map id) = kvs := by
  simpa using static_overlay_block_arrives kvs [] h fun _ _ => List.not_mem_nil

/-- non-vacuity: a key that spells the path of the chain beside it, and one level down -/
example : HDO [("a", .obj [("b", .int 1), ("c", .obj [])]), ("a.b", .int 2),
               ("d", .obj [("a", .obj [("b", .str "x")]), ("a.b", .bool true)])] := by
  simp [HDO, HD, JVal.keys_cons, JVal.keys_nil]

end static_overlay

end Koreo.C11
