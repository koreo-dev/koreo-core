/-
  C01 — Steps run only on Ok dependencies and see exactly their values.
  Property theorems only; helper lemmas are in `Koreo/Lemmas/Workflow.lean`.
  Model: `Koreo/Workflow.lean` (hand transcription of src/koreo/workflow/reconcile.py).

  Every theorem holds for every CEL oracle `eval`, every Function oracle `run` (so also for the
  one that reconciles sub-workflows, `runAt`), every trigger and every well-formed workflow
  (`Workflow.WF`: dependencies name earlier steps, labels distinct — what `prepare_workflow`
  guarantees before a `Step` is built).
-/
import Koreo.Lemmas.Workflow

namespace Koreo.C01
open Koreo Koreo.Workflow

variable (eval : EvalFn) (run : RunFn) (trig : JVal) (wf : Workflow)

/-! ## the Logic runs only after every referenced step finished Ok -/

/-- a Logic evaluation on behalf of `s` exists only if every step `s` references ended Ok -/
theorem logic_only_on_ok_deps (hwf : wf.WF = true) {s : Step} (hs : s ∈ wf.steps) {c : Call}
    (hc : c ∈ (trace eval run trig wf).calls) (hcs : c.step = s.label) :
    ∀ d ∈ s.deps, ∃ v, (trace eval run trig wf).resultOf d = some (.ok v) := by
  obtain ⟨oks, _, hok, -⟩ := trace_call_spec eval run trig wf hwf hs hc hcs
  exact fun d hd => Trace.ok_of_okValsOf hok hd

/-- if some referenced step did not end Ok (skipped, waiting, failed, dependency-skipped), the step is
    a dependency-skip and no Logic evaluation — hence no API call — is made on its behalf -/
theorem non_ok_dep_gives_depskip (hwf : wf.WF = true) {s : Step} (hs : s ∈ wf.steps) {d : Label}
    (hd : d ∈ s.deps) (hn : ∀ v, (trace eval run trig wf).resultOf d ≠ some (.ok v)) :
    (trace eval run trig wf).resultOf s.label = some .depSkip ∧
      ∀ c ∈ (trace eval run trig wf).calls, c.step ≠ s.label := by
  have hok : (trace eval run trig wf).okValsOf s.deps = none := by
    cases h : (trace eval run trig wf).okValsOf s.deps with
    | none => rfl
    | some oks => obtain ⟨v, hv⟩ := Trace.ok_of_okValsOf h hd; exact absurd hv (hn v)
  obtain ⟨hres, hcalls⟩ := trace_of_gate_done eval run trig wf hwf hs (gate_of_nonok hok)
  exact ⟨hres, fun c hc hcs =>
    List.eq_nil_iff_forall_not_mem.1 hcalls c (List.mem_filter.2 ⟨hc, decide_eq_true hcs⟩)⟩

/-! ## it receives exactly the dependencies' values mapped through `inputs` -/

/-- the inputs of every Logic evaluation on behalf of `s` are `s.inputs` evaluated over
    `{steps: Ok values of exactly the referenced steps, parent: trigger}` — plus, for a forEach step,
    the evaluation's own item under `inputKey` -/
theorem inputs_exact (hwf : wf.WF = true) {s : Step} (hs : s ∈ wf.steps) {c : Call}
    (hc : c ∈ (trace eval run trig wf).calls) (hcs : c.step = s.label) :
    ∃ oks inputs,
      depRes (trace eval run trig wf).results s.deps = oks.map (fun kv => (kv.1, StepRes.ok kv.2)) ∧
      evalInputs eval s (activation trig s.deps oks) = some inputs ∧
      match s.forEach with
      | none => c.idx = none ∧ c.inputs = inputs
      | some fe => ∃ items i it,
          eval fe.itemIn (.obj (activation trig s.deps oks)) = some (.arr items) ∧
          c.idx = some i ∧ items[i]? = some it ∧ c.inputs = setKey fe.inputKey it inputs := by
  obtain ⟨oks, inputs, hok, hin, -, hfe, -⟩ := trace_call_spec eval run trig wf hwf hs hc hcs
  exact ⟨oks, inputs, okVals_some _ hok, hin, hfe⟩

/-- … and every recorded evaluation really handed those inputs to the Function it names -/
theorem call_api_is_functions (hwf : wf.WF = true) {s : Step} (hs : s ∈ wf.steps) {c : Call}
    (hc : c ∈ (trace eval run trig wf).calls) (hcs : c.step = s.label) :
    c.api = (run c.target c.inputs).api := by
  obtain ⟨_, _, -, -, -, -, -, hapi⟩ := trace_call_spec eval run trig wf hwf hs hc hcs
  exact hapi

/-- `skipIf` true (dependencies Ok, inputs evaluable): the step is a Skip and its Logic is never evaluated -/
theorem skipif_true_skips (hwf : wf.WF = true) {s : Step} (hs : s ∈ wf.steps) {oks inputs e}
    (hok : (trace eval run trig wf).okValsOf s.deps = some oks)
    (hin : evalInputs eval s (activation trig s.deps oks) = some inputs)
    (hsk : s.skipIf = some e) (htrue : eval e (.obj (activation trig s.deps oks)) = some (.bool true)) :
    (trace eval run trig wf).resultOf s.label = some .skip ∧ (trace eval run trig wf).callsOf s.label = [] :=
  trace_of_gate_done eval run trig wf hwf hs (gate_of_skip hok hin (by simp [skipDecision, hsk, htrue]))

/-- `skipIf` true never lets the Logic run — also when `inputs` cannot be evaluated (then PermFail) -/
theorem skipif_true_never_runs (hwf : wf.WF = true) {s : Step} (hs : s ∈ wf.steps) {oks e}
    (hok : (trace eval run trig wf).okValsOf s.deps = some oks)
    (hsk : s.skipIf = some e) (htrue : eval e (.obj (activation trig s.deps oks)) = some (.bool true)) :
    (trace eval run trig wf).callsOf s.label = [] ∧
      ((trace eval run trig wf).resultOf s.label = some .skip ∨
       (trace eval run trig wf).resultOf s.label = some .permFail) := by
  cases hin : evalInputs eval s (activation trig s.deps oks) with
  | some inputs =>
    have := skipif_true_skips eval run trig wf hwf hs hok hin hsk htrue
    exact ⟨this.2, Or.inl this.1⟩
  | none =>
    have := trace_of_gate_done eval run trig wf hwf hs (gate_of_inputs_fail hok hin)
    exact ⟨this.2, Or.inr this.1⟩

/-- `skipIf` that is not a bool (or cannot be evaluated): PermFail, Logic never evaluated -/
theorem skipif_nonbool_permfail (hwf : wf.WF = true) {s : Step} (hs : s ∈ wf.steps) {oks inputs e}
    (hok : (trace eval run trig wf).okValsOf s.deps = some oks)
    (hin : evalInputs eval s (activation trig s.deps oks) = some inputs)
    (hsk : s.skipIf = some e) (hnb : ∀ b, eval e (.obj (activation trig s.deps oks)) ≠ some (.bool b)) :
    (trace eval run trig wf).resultOf s.label = some .permFail ∧
      (trace eval run trig wf).callsOf s.label = [] := by
  have hdec : skipDecision eval s (activation trig s.deps oks) = .fail := by
    simp only [skipDecision, hsk]
    split
    · next h => exact absurd h (hnb true)
    · next h => exact absurd h (hnb false)
    · rfl
  exact trace_of_gate_done eval run trig wf hwf hs (gate_of_skip_fail hok hin hdec)

/-! ## refSwitch evaluates exactly the selected case -/

/-- every Function a `refSwitch` step evaluates is the case `switchOn` selected for that evaluation's
    inputs (the default when no case matches) -/
theorem switch_runs_exactly_selected (hwf : wf.WF = true) {s : Step} (hs : s ∈ wf.steps) {on cases dflt}
    (hl : s.logic = .switch on cases dflt) {c : Call}
    (hc : c ∈ (trace eval run trig wf).calls) (hcs : c.step = s.label) :
    ∃ oks, (trace eval run trig wf).okValsOf s.deps = some oks ∧
      select eval on cases dflt (activation trig s.deps oks) c.inputs = .hit c.target := by
  obtain ⟨oks, _, hok, -, -, -, ht, -⟩ := trace_call_spec eval run trig wf hwf hs hc hcs
  rw [hl] at ht
  exact ⟨oks, hok, logicTarget_switch.1 ht⟩

/-- one evaluation of a step's Logic evaluates at most one Function: a plain step makes at most one call,
    a forEach step at most one per item -/
theorem at_most_one_call_per_evaluation (hwf : wf.WF = true) {s : Step} (hs : s ∈ wf.steps)
    (hfe : s.forEach = none) : ((trace eval run trig wf).callsOf s.label).length ≤ 1 := by
  rw [trace_callsOf eval run trig wf hwf hs]
  cases hg : gate eval trig (depRes (trace eval run trig wf).results s.deps) s with
  | done o => simp [stepResult_done hg]
  | single act inputs => rw [stepResult_single hg]; exact runLogic_calls_length ..
  | each act inputs key items => obtain ⟨_, fe, -, -, -, -, h, -⟩ := gate_each hg; simp [hfe] at h

/-- nothing matches and there is no default (or `switchOn` is unevaluable / not a string or int):
    PermFail and no Function is evaluated at all -/
theorem switch_unmatched_runs_nothing (hwf : wf.WF = true) {s : Step} (hs : s ∈ wf.steps) {on cases dflt}
    (hl : s.logic = .switch on cases dflt) (hfe : s.forEach = none) {oks inputs}
    (hok : (trace eval run trig wf).okValsOf s.deps = some oks)
    (hin : evalInputs eval s (activation trig s.deps oks) = some inputs)
    (hgo : skipDecision eval s (activation trig s.deps oks) = .go)
    (hno : ∀ t, select eval on cases dflt (activation trig s.deps oks) inputs ≠ .hit t) :
    (trace eval run trig wf).resultOf s.label = some .permFail ∧
      (trace eval run trig wf).callsOf s.label = [] := by
  -- the gate lets the Logic run once, and the switch selects nothing
  have hnone : logicTarget eval (activation trig s.deps oks) inputs s.logic = none := by
    cases ht : logicTarget eval (activation trig s.deps oks) inputs s.logic with
    | none => rfl
    | some t => rw [hl] at ht; exact absurd (logicTarget_switch.1 ht) (hno t)
  rw [trace_resultOf eval run trig wf hwf hs, trace_callsOf eval run trig wf hwf hs,
    stepResult_single (gate_of_single hok hin hgo hfe), runLogic_eq_target, hnone]
  exact ⟨rfl, rfl⟩

/-- what "selected" means: the case whose key is the string `switchOn` evaluated to, else the default;
    an int never equals a (string) case key -/
theorem select_spec (on : Expr) (cases : List (String × Target)) (dflt : Option Target) (act inputs) (t : Target) :
    select eval on cases dflt act inputs = .hit t ↔
      (∃ k, eval on (.obj (("inputs", inputs) :: act)) = some (.str k) ∧
        (lookupL k cases = some t ∨ (lookupL k cases = none ∧ dflt = some t))) ∨
      (∃ n, eval on (.obj (("inputs", inputs) :: act)) = some (.int n) ∧ dflt = some t) := by
  -- `switchOn` is unevaluable, a string, an int, or of another type
  fun_cases select eval on cases dflt act inputs <;> simp_all [orDefault_eq_hit]

/-! ## well-formedness (`Workflow.WF : Bool`, a decidable check) and what it buys -/

/-- in a well-formed workflow every dependency names a step listed earlier, and labels are distinct -/
theorem wf_deps_earlier (hwf : wf.WF = true) :
    (labels wf.steps).Nodup ∧ ∀ s ∈ wf.steps, ∀ d ∈ s.deps, d ∈ labels wf.steps :=
  wfSteps_spec List.nodup_nil hwf

/-- every step of a well-formed workflow gets a result -/
theorem every_step_has_result (hwf : wf.WF = true) {s : Step} (hs : s ∈ wf.steps) :
    ∃ r, (trace eval run trig wf).resultOf s.label = some r :=
  ⟨_, trace_resultOf eval run trig wf hwf hs⟩

/-! ## non-vacuity: a concrete workflow in which each clause fires -/

section example_
/-- the Function oracle of the example: `f` and `g` echo their inputs (one API request each), `sk` skips, every other
    target is a permanent failure -/
def exRun : RunFn := fun t inputs =>
  match t with
  | .fn "f" => ⟨.ok (.obj [("got", inputs)]), .null, ["GET f"]⟩
  | .fn "g" => ⟨.ok (.obj [("got", inputs)]), .null, ["GET g"]⟩
  | .fn "sk" => ⟨.skip, .null, []⟩
  | _ => ⟨.permFail, .null, []⟩

def exWf : Workflow :=
  { name := "ex"
    steps := [
      { label := "a", logic := .ref (.fn "f"),
        inputs := some (.mapE [("x", .path "parent" ["v"]), ("sel", .lit (.str "two"))]) },
      { label := "b", deps := ["a"], logic := .ref (.fn "sk"), inputs := some (.mapE [("y", .path "steps" ["a", "got", "x"])]) },
      { label := "c", deps := ["b"], logic := .ref (.fn "f") },
      { label := "d", deps := ["a"], logic := .ref (.fn "f"), skipIf := some (.lit (.bool true)) },
      { label := "e", deps := ["a"], logic := .ref (.fn "f"), skipIf := some (.lit (.int 1)) },
      { label := "s", deps := ["a"],
        logic := .switch (.path "steps" ["a", "got", "sel"]) [("one", .fn "f"), ("two", .fn "g")] none },
      { label := "each", deps := ["a"], logic := .ref (.fn "g"), inputs := some (.mapE [("k", .lit (.int 7))]),
        forEach := some ⟨.lit (.arr [.str "p", .str "q"]), "item"⟩ } ] }

def exTrig : JVal := .obj [("v", .int 5)]

example : exWf.WF = true := by decide

/-- `a` ran on `{x: 5, sel: "two"}`; `b` (Skip) blocks `c`; `d` skipped; `e` PermFail; the switch ran only `g` -/
example : ((trace evalStd exRun exTrig exWf).results.map fun kv => (kv.1, reason kv.2.res)) =
    [("a", "Ready"), ("b", "Skip"), ("c", "DepSkip"), ("d", "Skip"), ("e", "Failure"), ("s", "Ready"),
     ("each", "Ready")] := by decide +kernel

example : ((trace evalStd exRun exTrig exWf).calls.map fun c => (c.step, c.api)) =
    [("a", ["GET f"]), ("b", []), ("s", ["GET g"]), ("each", ["GET g"]), ("each", ["GET g"])] := by decide

/-- the hypotheses of `non_ok_dep_gives_depskip` are met by `c` (its dependency `b` is a Skip) -/
example : ∀ v, (trace evalStd exRun exTrig exWf).resultOf "b" ≠ some (.ok v) := by
  intro v h
  have : ((trace evalStd exRun exTrig exWf).resultOf "b").map reason = some "Skip" := by decide
  rw [h] at this; simp [reason] at this
end example_

end Koreo.C01
