/-
  C05 — Drift in any target-specified field triggers the configured correction.
  Property theorems only; the lemmas are in `Koreo/Lemmas/CompareSpec.lean` (completeness of the comparator),
  `CompareTotal.lean` (it never raises), `ComparePayload.lean` (`laOk_strip_self`), over `Lemmas/Compare.lean`;
  the pass-level lemmas are C04's (`Lemmas/Reconcile45.lean`, `Lemmas/TargetViews.lean`).
  Models as for C04 (`Koreo/Compare.lean` is validate.py *with* fixes/F9-compare-as-map.diff and
  fixes/F6-typed-set.diff applied).

  `MeetsExcl t live` is "the live object agrees with the target in every field the target specifies",
  minus exactly what the property excludes: keys compared against last-applied by directive, and
  `ownerReferences`.  Drift = `¬ MeetsExcl t live`; no enumeration of deviation kinds is needed,
  the statement is the contrapositive of the comparator's completeness.
-/
import Koreo.Lemmas.CompareTotal
import Koreo.Props.C04
import Koreo.Gen.Compare45

namespace Koreo.C05
open Koreo Koreo.JVal Koreo.Compare Koreo.R45

/-- directive keys (as a set), the last-applied annotation and the default patch delay, regenerated
    from src/koreo/constants.py on every run -/
theorem constants_match_source :
    Koreo.Gen.Compare45.extractionOk = true ∧
    (∀ k, Koreo.Gen.Compare45.directiveKeys.contains k = Koreo.directiveKeys.contains k) ∧
    Koreo.Gen.Compare45.lastAppliedAnnotation = lastAppliedAnnotation ∧
    Koreo.Gen.Compare45.defaultPatchDelay = defaultPatchDelay ∧
    Koreo.Gen.Compare45.loadRetryDelay = loadRetryDelay := by
  refine ⟨by decide, ?_, rfl, by decide, by decide⟩
  intro k
  simp only [Koreo.Gen.Compare45.directiveKeys, Koreo.directiveKeys, compareAsSet, compareAsMap,
    compareLastApplied, List.contains_cons, List.contains_nil, Bool.or_false]
  exact Bool.or_left_comm _ _ _

/-- whatever is reported as matching agrees with the target at every target-specified path: changed or
    retyped leaves (bool vs number included), removed keys, lists of other length or content, missing
    or extra set members, missing keyed members — each of them prevents a match -/
theorem match_implies_meets (t live la : JVal) (hw : DirectivesWF t)
    (h : validateMatch t live la false = .ok) : MeetsExcl t live :=
  meets_of_vm t live la .null hw h

/-- drift at any target-specified path, of any kind, is never reported as a match -/
theorem drift_detected (t live la : JVal) (hw : DirectivesWF t) (hd : ¬ MeetsExcl t live) :
    validateMatch t live la false ≠ .ok :=
  fun h => hd (match_implies_meets t live la hw h)

/-- … and it is reported as *differences*, not as an exception, whatever the live object holds
    (a last-applied tree of the target's shape is what koreo itself wrote) -/
theorem drift_reported (t live la : JVal) (hw : DirectivesWF t) (hl : LaShaped t la)
    (hd : ¬ MeetsExcl t live) : validateMatch t live la false = .differ := by
  have h1 := drift_detected t live la hw hd
  have h2 := vm_noRaise t live la false hw hl
  cases hv : validateMatch t live la false with
  | ok => exact absurd hv h1
  | bad d r =>
    rw [hv] at h2
    simp only [Res.mayRaise] at h2
    subst h2
    cases d
    · -- `bad false false` is not an answer the comparator has
      have := vm_nonempty t live la false
      rw [hv] at this; cases this
    · rfl

/-! ### the two defects of the unrepaired comparator, on their witnesses

  Before fixes/F6 and fixes/F9 `match_implies_meets` was false.  The pre-repair behaviour of the two
  places is kept in `Koreo/Compare.lean` (`setMatchLegacy`, `keyedLegacyHead`); on the witnesses the
  harness replays (corpus/C05/set_bool.json, keyed_junk.json, keyed_empty_vs_falsy.json) it reported a
  match / raised, while the repaired model reports differences. -/

/-- F6: inside a set-directed list `true` passed for `1` -/
theorem legacy_set_conflates_bool :
    setMatchLegacy [.int 1, .int 2] [.bool true, .int 2] = .ok ∧
      setEqSpec [.int 1, .int 2] [.bool true, .int 2] = false ∧
      setMatch [.int 1, .int 2] [.bool true, .int 2] = .differ := by decide

/-- F9: a live value that is not a list of maps made the keyed comparison raise … -/
theorem legacy_keyed_raises :
    keyedLegacyHead [.str "name"] (.arr [.obj [("name", .str "a")]]) (.str "x") = some .raised ∧
      keyedLegacyHead [.str "name"] (.arr [.obj [("name", .str "a")]]) (.arr [.null]) = some .raised := by decide

/-- … and an empty target list matched a falsy live value -/
theorem legacy_keyed_empty_matches_falsy :
    keyedLegacyHead [.str "name"] (.arr []) .null = some .ok ∧
      keyedLegacyHead [.str "name"] (.arr []) (.str "") = some .ok ∧
      keyedLegacyHead [.str "name"] (.arr []) (.bool false) = some .ok := by decide

/-- patch, owner reference in place: exactly one PATCH whose body is the payload of the target, Retry
    with the patch delay -/
theorem drift_action_patch (c : Cfg) (t live la body d : JVal)
    (hla : extractLastApplied c.codec live = some la) (hv : validateMatch t live la false = .differ)
    (hp : c.policy = .patch d) (ho : ownerFixOf c live = some .none) (hf : ownerRefsFree t = true)
    (hb : prepareForApi c.codec t = some body) :
    pass c t (some live) = [⟨some (mergePatch live body), .retry d, [.patch body]⟩] := by
  rw [← correct_patch live hp hf hb]
  exact passPresent_differ ho hla hv

/-- patch, parent's reference missing: the one PATCH carries the payload of the target *with* the live
    references plus the parent's (`C04.owner_fix_keeps_co_owners`) -/
theorem drift_action_patch_owner (c : Cfg) (t live la r x body d : JVal)
    (hla : extractLastApplied c.codec live = some la) (hv : validateMatch t live la false = .differ)
    (hp : c.policy = .patch d) (ho : ownerFixOf c live = some (.refs r))
    (hx : setOwnerRefs r t = some x) (hb : prepareForApi c.codec x = some body) :
    pass c t (some live) = [⟨some (mergePatch live body), .retry d, [.patch body]⟩] := by
  rw [← correct_patch_refs live hp hx hb]
  exact passPresent_differ ho hla hv

/-- recreate: exactly one DELETE, Retry with the recreate delay (whatever the owner check decided) -/
theorem drift_action_recreate (c : Cfg) (t live la d : JVal) (fix : OwnerFix)
    (hla : extractLastApplied c.codec live = some la) (hv : validateMatch t live la false = .differ)
    (hp : c.policy = .recreate d) (ho : ownerFixOf c live = some fix) :
    pass c t (some live) = [⟨none, .retry d, [.delete]⟩] := by
  rw [← correct_recreate fix t live hp]
  exact passPresent_differ ho hla hv

/-- never: no request at all; the live object is handed on -/
theorem drift_action_never (c : Cfg) (t live la : JVal) (fix : OwnerFix)
    (hla : extractLastApplied c.codec live = some la) (hv : validateMatch t live la false = .differ)
    (hp : c.policy = .never) (ho : ownerFixOf c live = some fix) :
    pass c t (some live) = [⟨some live, .okLive live, []⟩] := by
  rw [show (⟨some live, .okLive live, []⟩ : PassResult) = unchanged live from rfl, ← correct_never fix t live hp]
  exact passPresent_differ ho hla hv

/-- the three together, from drift itself: every drifted live object gets exactly the policy's action -/
theorem drift_action (c : Cfg) (t live la : JVal) (h : C04.TargetOk t) (hl : LaShaped t la)
    (hla : extractLastApplied c.codec live = some la) (ho : ownerFixOf c live = some .none)
    (hd : ¬ MeetsExcl t live) :
    match c.policy with
    | .patch d => ∃ body, prepareForApi c.codec t = some body ∧
        pass c t (some live) = [⟨some (mergePatch live body), .retry d, [.patch body]⟩]
    | .recreate d => pass c t (some live) = [⟨none, .retry d, [.delete]⟩]
    | .never => pass c t (some live) = [⟨some live, .okLive live, []⟩] := by
  have hv := drift_reported t live la h.wf hl hd
  cases hp : c.policy with
  | patch d =>
    obtain ⟨body, hb⟩ := prepareForApi_target c.codec t h.annFree
    exact ⟨body, hb, drift_action_patch c t live la body d hla hv hp ho h.ownerFree hb⟩
  | recreate d => exact drift_action_recreate c t live la d _ hla hv hp ho
  | never => exact drift_action_never c t live la _ hla hv hp ho

/-- the same for an object that still carries the annotation koreo wrote for this target — the usual
    case; no hypothesis about the annotation's shape is left: `strip t` is always well shaped -/
theorem drift_action_own_annotation (c : Cfg) (t live : JVal) (h : C04.TargetOk t)
    (hla : extractLastApplied c.codec live = some (strip t)) (ho : ownerFixOf c live = some .none)
    (hd : ¬ MeetsExcl t live) :
    match c.policy with
    | .patch d => ∃ body, prepareForApi c.codec t = some body ∧
        pass c t (some live) = [⟨some (mergePatch live body), .retry d, [.patch body]⟩]
    | .recreate d => pass c t (some live) = [⟨none, .retry d, [.delete]⟩]
    | .never => pass c t (some live) = [⟨some live, .okLive live, []⟩] :=
  drift_action c t live (strip t) h (laOk_strip_self t h.wf h.nodup) hla ho hd

/-- drifted *and* the parent's reference missing, update policy patch: one PATCH that restores the target
    and writes the live references plus the parent's; Retry -/
theorem drift_action_owner_missing (c : Cfg) (t live la r d : JVal) (rs : List JVal) (h : C04.TargetOk t)
    (hl : LaShaped t la) (hla : extractLastApplied c.codec live = some la)
    (ho : ownerFixOf c live = some (.refs r)) (hr : r = .arr rs) (hrn : noDupB r = true)
    (hp : c.policy = .patch d) (hd : ¬ MeetsExcl t live) :
    ∃ x body, setOwnerRefs r t = some x ∧ prepareForApi c.codec x = some body ∧
      pass c t (some live) = [⟨some (mergePatch live body), .retry d, [.patch body]⟩] ∧
      (c.codec.reads (strip x) → Meets t (mergePatch live body) (strip x) ∧
        liveRefs (mergePatch live body) = some (.arr (stripL rs))) := by
  subst hr
  have hv := drift_reported t live la h.wf hl hd
  obtain ⟨x, body, hx, hb, hall⟩ := C04.owner_fix_reaches_target c.codec t rs h hrn
  exact ⟨x, body, hx, hb, drift_action_patch_owner c t live la _ x body d hla hv hp ho hx hb,
    fun hc => ⟨(hall hc live).1, (hall hc live).2.2⟩⟩

/-- after the patch the object meets the target again, its annotation reads back as the payload, and
    that payload is a well-shaped last-applied tree (the next pass is quiet: C04.no_update_loop) -/
theorem after_patch_meets (c : Codec) (t : JVal) (h : C04.TargetOk t) (hc : c.reads (strip t)) :
    ∃ body, prepareForApi c t = some body ∧ LaShaped t (strip t) ∧
      ∀ live, Meets t (mergePatch live body) (strip t) ∧
        extractLastApplied c (mergePatch live body) = some (strip t) :=
  C04.patch_reaches_target c t h hc

/-- what meets in C04's sense has no drift in C05's sense (the two relations are nested) -/
theorem meets_implies_meetsExcl (t live la : JVal) (hw : DirectivesWF t) (hm : Meets t live la) :
    MeetsExcl t live :=
  match_implies_meets t live la hw (C04.meets_implies_match t live la hw hm)

theorem update_default : prepareUpdate none = some (.patch (.int 30)) := rfl

theorem update_patch (d : JVal) (rest : List (String × JVal)) :
    prepareUpdate (some (.obj (("patch", .obj [("delay", d)]) :: rest))) = some (.patch d) := by
  simp [prepareUpdate, lookup]

theorem update_recreate (d : JVal) :
    prepareUpdate (some (.obj [("recreate", .obj [("delay", d)])])) = some (.recreate d) := by
  simp [prepareUpdate, lookup]

theorem update_never : prepareUpdate (some (.obj [("never", .obj [])])) = some .never := by
  simp [prepareUpdate, lookup]

theorem update_malformed : prepareUpdate (some (.obj [("patch", .obj [])])) = none ∧
    prepareUpdate (some (.obj [])) = none := by
  simp [prepareUpdate, lookup]

/-- one drifted leaf deep inside a keyed member of the C04 example -/
def exDrift : JVal := .obj [
  ("spec", .obj [
    ("replicas", .int 2), ("on", .bool false), ("args", .arr [.str "x", .flt 12]), ("seed", .str "s1"),
    ("zones", .arr [.str "a", .int 1]),
    ("ports", .arr [.obj [("name", .str "dns"), ("port", .int 54)], .obj [("name", .str "http"), ("port", .int 80)]])]),
  ("metadata", .obj [("labels", .obj [("app", .str "web")])])]

example : ¬ MeetsExcl C04.exTarget exDrift := by decide +kernel
/-- what koreo wrote is well shaped (`laOk_strip_self`), shown here on the example -/
example : LaShaped C04.exTarget (strip C04.exTarget) := laOk_strip_self _ (by decide +kernel) (by decide +kernel)
example : validateMatch C04.exTarget exDrift (strip C04.exTarget) false = .differ := by decide +kernel
/-- a retyped leaf (`false` ↦ `0`) is drift too -/
example : validateMatch (.obj [("on", .bool false)]) (.obj [("on", .int 0)]) .null false = .differ := by decide
/-- numbers are compared exactly, however large: off by one at 2^31 is drift -/
example : validateMatch (.obj [("bytes", .int 2147483648)]) (.obj [("bytes", .int 2147483649)]) .null false = .differ ∧
    validateMatch (.obj [("q", .flt (8 * 8589934592 + 4))]) (.obj [("q", .flt (8 * 8589934592 + 5))]) .null false = .differ := by
  decide
/-- only `ownerReferences` is skipped by name: a target field called `uid` / `generation` /
    `resourceVersion` below `spec` is an ordinary field -/
example : validateMatch (.obj [("spec", .obj [("claimRef", .obj [("uid", .str "u1"), ("resourceVersion", .str "7")]),
      ("generation", .int 2)])])
    (.obj [("spec", .obj [("claimRef", .obj [("uid", .str "u2"), ("resourceVersion", .str "7")]),
      ("generation", .int 2)])]) .null false = .differ := by decide +kernel
/-- an object that is being deleted but still held by a finalizer is compared like any other -/
example : validateMatch (.obj [("spec", .obj [("n", .int 1)])])
    (.obj [("metadata", .obj [("deletionTimestamp", .str "2026-01-02T00:00:00Z"), ("finalizers", .arr [.str "f"])]),
      ("spec", .obj [("n", .int 2)])]) .null false = .differ := by decide
/-- the F6 witness through the whole (repaired) comparator -/
example : validateMatch (.obj [(compareAsSet, .arr [.str "s"]), ("s", .arr [.int 1, .int 2])])
    (.obj [("s", .arr [.bool true, .int 2])]) .null false = .differ := by decide +kernel
/-- the F9 witnesses through the whole (repaired) comparator -/
example : validateMatch (.obj [(compareAsMap, .obj [("m", .arr [.str "name"])]), ("m", .arr [.obj [("name", .str "a")]])])
    (.obj [("m", .str "x")]) .null false = .differ := by decide +kernel
example : validateMatch (.obj [(compareAsMap, .obj [("m", .arr [.str "name"])]), ("m", .arr [])])
    (.obj [("m", .null)]) .null false = .differ := by decide +kernel
/-- and extras in a keyed list are not drift -/
example : validateMatch (.obj [(compareAsMap, .obj [("m", .arr [.str "name"])]), ("m", .arr [])])
    (.obj [("m", .arr [.obj [("name", .str "x")]])]) .null false = .ok := by decide +kernel

/-! ## the two comparator corners left outside the stated domain, stated precisely

  (1) A keyed-list member whose key (`"$"`-joined field values) equals `ownerReferences` or a directive
      name.  `_validate_dict_match` runs on the dictionary `{key: member}`; it removes the directive names
      from its key set and skips `ownerReferences`, so such a member is **never compared** — that is
      what the model does too (`vmK`: `skippedKey key`).  `DirectivesWF` excludes these keys
      (`keysDistinct`), and without that exclusion completeness fails, as the first example shows.
      (For a directive-named key the code in addition *reads the member as that directive* for its
      sibling members — `{"name": "x-koreo-compare-as-map", "v": 1}` makes it raise `TypeError` while
      iterating `1`; the model does not follow it there: harness probe `quirk:member-named-as-directive`.)
  (2) An explicit `null` in the target **below** a key listed in `x-koreo-compare-last-applied`.  There the
      code calls `validate_match(target[k], last_applied[k], last_applied[k])` — actual value and
      last-applied value are the *same object* — and `_validate_dict_match`'s
      `last_applied_value[target_key] = None` for a missing key therefore also adds the key to the
      "actual" side: a key the last-applied tree does not have compares as `null` and so *matches* a
      target `null`.  The model compares without that aliasing and answers "differences" (second
      example); both C04 (no explicit nulls) and C05 (last-applied-directed keys are excluded) leave the
      corner out, and the generators avoid it (`gen_rf45.denull_under_la`); harness probe
      `quirk:null-below-last-applied` records the code's answer (`ok`) next to the model's (`differ`). -/

/-- (1): the member keyed `ownerReferences` differs in the live object, yet the comparison matches -/
example :
    let t : JVal := .obj [(compareAsMap, .obj [("m", .arr [.str "name"])]),
      ("m", .arr [.obj [("name", .str "ownerReferences"), ("v", .int 1)], .obj [("name", .str "b")]])]
    let live : JVal := .obj [("m", .arr [.obj [("name", .str "ownerReferences"), ("v", .int 2)], .obj [("name", .str "b")]])]
    validateMatch t live .null false = .ok ∧ meetsB .excl t live .null = false ∧ wfB t = false := by decide +kernel

/-- (2): what the model answers where the code's aliasing makes a missing key read as `null` -/
example :
    let t : JVal := .obj [(compareLastApplied, .arr [.str "d"]), ("d", .obj [("e", .null), ("f", .int 1)])]
    let la : JVal := .obj [("d", .obj [("f", .int 1)])]
    validateMatch t (.obj []) la false = .differ ∧ noNullsB t = false := by decide +kernel

end Koreo.C05
