/-
  C03 — Outcome aggregation is severity-maximal, order-insensitive, lossless.
  The property theorems, with the steps between them that speak of `combine` itself (`fold_class`,
  `combined_cls`, `fold_decompose`, `combine_retry`, `combine_permFail`, …); the lemmas about the pairwise
  `Outcome.combine` and about `fold` are in `Koreo/Lemmas/Result.lean`.
  Model: `Koreo/Result.lean` (hand transcription of src/koreo/result.py);
  `Koreo/Gen/ResultTable.lean` is regenerated from the source on every run.
-/
import Koreo.Lemmas.Result
import Koreo.Gen.ResultTable

namespace Koreo.C03
open Koreo.Result
variable {α : Type}

/-! ## the model's dispatch is the one of the source tree under test -/

/-- the class-by-class dispatch table extracted from `result.py` is the model's -/
theorem table_matches_source : ∀ a b, Koreo.Gen.ResultTable.table a b = Result.table a b := by
  intro a b; cases a <;> cases b <;> rfl

/-- the translator understood every branch of the five `combine` methods, the fold seed
    (`DepSkip()`) and the empty-sequence answer (`Skip()`) -/
theorem extraction_ok : Koreo.Gen.ResultTable.extractionOk = true := by decide

theorem sep_matches_source : Koreo.Gen.ResultTable.sep = Result.sep := by decide

theorem delay_op_matches_source : Koreo.Gen.ResultTable.delayOpName = "max" := rfl

/-- the executable `combine` follows the table: `self`/`other` return that operand unchanged,
    `wrapSelf` keeps class, values and location, `merge` stays in the class -/
theorem combine_follows_table (a b : Outcome α) :
    match Result.table a.cls b.cls with
    | .self => a.combine b = a
    | .other => a.combine b = b
    | .wrapSelf => (a.combine b).cls = a.cls ∧ (a.combine b).vals = a.vals ∧ (a.combine b).loc = a.loc
    | .merge => (a.combine b).cls = a.cls ∧ a.cls = b.cls := by
  cases a <;> cases b <;>
    simp [Result.table, Outcome.combine, Outcome.cls, Outcome.vals, Outcome.loc, unwrapData]

/-! ## class: most severe present, whatever the order -/

theorem combine_empty : combine ([] : List (Outcome α)) = .nonOk (.skip none none) := rfl

theorem maxSeverity_rank (xs : List (Outcome α)) :
    (maxSeverity xs).rank = xs.foldl (fun n o => max n o.cls.rank) 0 :=
  (List.foldl_hom Cls.rank fun c o => (maxCls_rank c o.cls).symm).symm

theorem fold_class (xs : List (Outcome α)) : (fold xs).cls = maxSeverity xs :=
  (List.foldl_hom Outcome.cls fun a x => (combine_cls a x).symm).symm

theorem combined_cls (xs : List (Outcome α)) (h : xs ≠ []) : (combine xs).cls = (fold xs).cls :=
  combine_cls_fold h

/-- PermFail > Retry > Ok > Skip > DepSkip: the result has the most severe class present -/
theorem combine_class (xs : List (Outcome α)) (h : xs ≠ []) :
    (combine xs).cls = maxSeverity xs := by
  rw [combined_cls xs h, fold_class]

/-- every element is at most as severe as the result, and the result's class occurs among the elements
    (the fold's seed `DepSkip()` adds no class of its own: `DepSkip().combine(x)` is `x`, so a non-empty
    list is folded from its first element) -/
theorem combine_class_is_max (xs : List (Outcome α)) (h : xs ≠ []) :
    (∀ x ∈ xs, x.cls.rank ≤ (combine xs).cls.rank) ∧ (∃ x ∈ xs, x.cls = (combine xs).cls) := by
  refine ⟨fun x hx => combine_rank_ge xs hx, ?_⟩
  rw [combined_cls xs h]
  cases xs with
  | nil => exact absurd rfl h
  | cons x xs => exact fold_cls_mem x xs

theorem maxSeverity_perm {xs ys : List (Outcome α)} (h : xs.Perm ys) :
    maxSeverity xs = maxSeverity ys := by
  apply rank_inj
  rw [maxSeverity_rank, maxSeverity_rank]
  exact h.foldl_eq' (fun _ _ _ _ n => Nat.max_right_comm n _ _) 0

/-- order-insensitivity of the class -/
theorem combine_class_perm {xs ys : List (Outcome α)} (h : xs.Perm ys) :
    (combine xs).cls = (combine ys).cls := by
  by_cases hx : xs = []
  · subst hx; have := h.symm.eq_nil; subst this; rfl
  · have hy : ys ≠ [] := fun e => hx (by subst e; exact h.eq_nil)
    rw [combine_class xs hx, combine_class ys hy, maxSeverity_perm h]

/-! ## decomposition at the first winner -/

theorem fold_decompose (xs : List (Outcome α)) (hpos : 0 < (fold xs).cls.rank) :
    ∃ pre w post, xs = pre ++ w :: post ∧ w.cls = (fold xs).cls ∧
      (∀ x ∈ pre, x.cls.rank < w.cls.rank) ∧ Dominated w post ∧
      fold xs = post.foldl Outcome.combine w ∧
      winners (fold xs).cls xs = w :: winners (fold xs).cls post := by
  obtain ⟨x, hx, (hxc : x.cls = (fold xs).cls)⟩ := fold_cls_mem (.depSkip none none) xs
  -- not the seed, whose rank is 0
  have hx : x ∈ xs := (List.mem_cons.1 hx).resolve_left fun e => by
    rw [← hxc, e] at hpos; exact Nat.lt_irrefl 0 hpos
  obtain ⟨pre, w, post, rfl, hw, hpre, hpost⟩ :=
    split_first _ xs (fun _ => fold_rank_ge xs) ⟨x, hx, congrArg Cls.rank hxc⟩
  rw [← hw] at hpre hpost hpos
  rw [← rank_inj hw]
  exact ⟨pre, w, post, rfl, rfl, hpre, hpost, fold_split _ pre post w (List.forall_mem_cons.2 ⟨hpos, hpre⟩),
    winners_split pre post w hpre⟩

/-! ## Ok: every value kept, in sequence order -/

/-- when the combination is Ok it carries exactly the Ok values of the sequence, in order -/
theorem combine_ok_values (xs : List (Outcome α)) (hc : (combine xs).cls = .ok) :
    ∃ loc, combine xs = .okList (xs.flatMap Outcome.vals) loc := by
  obtain ⟨hfc, hcomb⟩ := combine_of_cls hc (by decide)
  obtain ⟨d, l, hf⟩ := cls_ok_iff.1 hfc
  have hmax : ∀ x ∈ xs, x.cls.rank ≤ 2 := fun x hx => by have := combine_rank_ge xs hx; rwa [hc] at this
  have hv := fold_vals (.depSkip none none) xs (Nat.zero_le 2) hmax
  rw [← fold, hf] at hv
  rw [hcomb, hf]
  exact ⟨l, congrArg (Combined.okList · l) hv⟩

/-- for genuine inputs (no internal wrapper) the values are just the Ok payloads -/
theorem vals_of_inputs (xs : List (Outcome α)) (hin : ∀ x ∈ xs, x.isInput = true) :
    xs.flatMap Outcome.vals =
      xs.filterMap (fun o => match o with | .ok (.raw a) _ => some a | _ => none) := by
  induction xs with
  | nil => rfl
  | cons x xs ih =>
    have hx := hin x (by simp)
    rw [List.flatMap_cons, List.filterMap_cons, ih (fun y hy => hin y (by simp [hy]))]
    cases x with
    | ok d l =>
      cases d with
      | raw a => rfl
      | wrapped vs => cases hx
    | _ => rfl

/-- a Workflow (or any aggregate) reports Ok only if no element is waiting or failed -/
theorem ok_only_if_no_error (xs : List (Outcome α)) (hc : (combine xs).cls = .ok) :
    ∀ x ∈ xs, x.cls ≠ .retry ∧ x.cls ≠ .permFail := by
  intro x hx
  have := combine_rank_ge xs hx
  rw [hc] at this
  constructor <;> intro e <;> rw [e] at this <;> exact absurd this (by decide)

/-! ## Retry: longest delay, every message of the winning class -/

/-- the combined Retry: delay folded with `max` over all Retry elements, message and location
    merged over exactly the Retry elements, in order (`mergeMsgs`: a single one unchanged,
    several joined with ", " skipping empty ones) -/
theorem combine_retry (xs : List (Outcome α)) (hc : (combine xs).cls = .retry) :
    ∃ w rest, winners .retry xs = w :: rest ∧
      combine xs = .nonOk (.retry
        (rest.foldl (fun a o => delayOp a (o.delay?.getD 0)) (w.delay?.getD 0))
        (mergeMsgs ((winners .retry xs).map Outcome.msg))
        (mergeMsgs ((winners .retry xs).map Outcome.loc))) := by
  obtain ⟨hfc, hcomb⟩ := combine_of_cls hc (by decide)
  obtain ⟨pre, w, post, -, hw, -, hdom, hfold, hwin⟩ := fold_decompose xs (by rw [hfc]; decide)
  rw [hfc] at hwin hw
  obtain ⟨d, m, l, rfl⟩ := cls_retry_iff.1 hw
  rw [hcomb, hfold, fold_retry d m l post hdom, foldl_join2, foldl_join2, hwin]
  exact ⟨_, _, rfl, rfl⟩

/-- the largest element of a non-empty list is what folding `max` over it gives -/
theorem foldl_max_spec (d : Int) (ds : List Int) :
    (∀ x ∈ d :: ds, x ≤ ds.foldl max d) ∧ ds.foldl max d ∈ d :: ds :=
  have h : (d :: ds).max? = some (ds.foldl max d) := rfl
  (List.max?_eq_some_iff.1 h).symm

/-- the combined delay is the longest Retry delay present -/
theorem combine_retry_delay_longest (xs : List (Outcome α)) (hc : (combine xs).cls = .retry) :
    ∃ d m l, combine xs = .nonOk (.retry d m l) ∧
      (∀ x ∈ xs, ∀ dx, x.delay? = some dx → dx ≤ d) ∧ (∃ x ∈ xs, x.delay? = some d) := by
  obtain ⟨w, rest, hwin, heq⟩ := combine_retry xs hc
  refine ⟨_, _, _, heq, ?_⟩
  -- the delay is the `max`-fold over the delays of the Retry elements `w :: rest`, which are all the delays there are
  obtain ⟨hle, hmem⟩ := foldl_max_spec (w.delay?.getD 0) (rest.map fun o => o.delay?.getD 0)
  rw [List.foldl_map, ← List.map_cons (f := fun o : Outcome α => o.delay?.getD 0), ← hwin,
    winners_retry_delays] at hle hmem
  exact ⟨fun x hx dx hdx => hle dx (List.mem_filterMap.2 ⟨x, hx, hdx⟩), List.mem_filterMap.1 hmem⟩

/-! ## PermFail: every message of the winning class -/

theorem combine_permFail (xs : List (Outcome α)) (hc : (combine xs).cls = .permFail) :
    winners .permFail xs ≠ [] ∧
    combine xs = .nonOk (.permFail
      (mergeMsgs ((winners .permFail xs).map Outcome.msg))
      (mergeMsgs ((winners .permFail xs).map Outcome.loc))) := by
  obtain ⟨hfc, hcomb⟩ := combine_of_cls hc (by decide)
  obtain ⟨pre, w, post, -, hw, -, -, hfold, hwin⟩ := fold_decompose xs (by rw [hfc]; decide)
  rw [hfc] at hwin hw
  obtain ⟨m, l, rfl⟩ := cls_permFail_iff.1 hw
  rw [hcomb, hfold, fold_permFail, foldl_join2, foldl_join2, hwin]
  exact ⟨List.cons_ne_nil _ _, rfl⟩

/-- the multiset of winning messages does not depend on the order -/
theorem winner_messages_perm {xs ys : List (Outcome α)} (c : Cls) (h : xs.Perm ys) :
    ((winners c xs).map Outcome.msg).Perm ((winners c ys).map Outcome.msg) :=
  (h.filter _).map _

/-! ## lossless at any length: no message of the winning class is cut or dropped,
    however many and however long they are -/

/-- a non-empty message of a winning-class element is found, whole, in the merged message -/
theorem winner_message_kept (c : Cls) (xs : List (Outcome α)) (x : Outcome α) (hx : x ∈ xs)
    (hcls : x.cls = c) (s : String) (hm : x.msg = some s) (hs : s ≠ "") :
    ∃ t pre post, mergeMsgs ((winners c xs).map Outcome.msg) = some t ∧ t = pre ++ s ++ post :=
  mergeMsgs_contains _ s (List.mem_map.2 ⟨x, mem_winners.2 ⟨hx, hcls⟩, hm⟩) hs

/-- PermFail: every non-empty PermFail message of the sequence is part of the combined message,
    for sequences and messages of any length -/
theorem combine_permFail_keeps_every_message (xs : List (Outcome α))
    (hc : (combine xs).cls = .permFail) (x : Outcome α) (hx : x ∈ xs) (hcls : x.cls = .permFail)
    (s : String) (hm : x.msg = some s) (hs : s ≠ "") :
    ∃ t l pre post, combine xs = .nonOk (.permFail (some t) l) ∧ t = pre ++ s ++ post := by
  obtain ⟨t, pre, post, e, ht⟩ := winner_message_kept .permFail xs x hx hcls s hm hs
  exact ⟨t, _, pre, post, by rw [(combine_permFail xs hc).2, e], ht⟩

/-- Retry: every non-empty Retry message of the sequence is part of the combined message -/
theorem combine_retry_keeps_every_message (xs : List (Outcome α))
    (hc : (combine xs).cls = .retry) (x : Outcome α) (hx : x ∈ xs) (hcls : x.cls = .retry)
    (s : String) (hm : x.msg = some s) (hs : s ≠ "") :
    ∃ d t l pre post, combine xs = .nonOk (.retry d (some t) l) ∧ t = pre ++ s ++ post := by
  obtain ⟨t, pre, post, e, ht⟩ := winner_message_kept .retry xs x hx hcls s hm hs
  obtain ⟨w, rest, -, hcomb⟩ := combine_retry xs hc
  exact ⟨_, t, _, pre, post, by rw [hcomb, e], ht⟩

/-- with several winners the combined message is exactly as long as all their non-empty messages and
    the separators between them: there is no bound on it (the model has no cap to reach) -/
theorem merged_message_length (ms : List (Option String)) (h : 2 ≤ ms.length) :
    ∃ t, mergeMsgs ms = some t ∧
      t.length = ((truthyList ms).map String.length).sum + 2 * ((truthyList ms).length - 1) := by
  match ms, h with
  | a :: b :: rest, _ => exact ⟨_, rfl, by rw [joinStrs_length, sep_length]⟩

/-! ## `unwrapped_combine` is `combine` after wrapping bare values -/

theorem unwrapped_class (xs : List (Unwrapped α)) :
    (unwrappedCombine xs).cls = (combine (xs.map Unwrapped.lift)).cls :=
  unwrappedCombine_cls xs

theorem unwrapped_ok_values (xs : List (Unwrapped α)) (hc : (unwrappedCombine xs).cls = .ok) :
    unwrappedCombine xs = .okList ((xs.map Unwrapped.lift).flatMap Outcome.vals) none := by
  rw [unwrapped_class] at hc
  obtain ⟨loc, h⟩ := combine_ok_values _ hc
  rw [unwrappedCombine_eq, h]

/-! ## non-vacuity: concrete instances of the hypotheses -/

example : (combine [Outcome.ok (.raw 1) none, .skip none none, .ok (.raw 2) (some "x")]).cls = .ok := by
  decide
example : combine [Outcome.ok (.raw 1) none, .skip none none, .ok (.raw 2) (some "x")]
    = .okList [1, 2] (some "x") := by decide
example : (combine [Outcome.retry 5 (some "a") none, .ok (.raw 1) none, .retry 9 none none,
    .retry 2 (some "b") (some "l")]) = .nonOk (.retry 9 (some "a, b") (some "l")) := by decide
example : (combine [Outcome.retry 5 (some "a") none, .permFail none none, .ok (.raw (1 : Nat)) none]).cls
    = .permFail := by decide
example : ∃ t, mergeMsgs [some "region is not allowed", none, some "", some "quota exceeded"] = some t ∧
    t.length = 21 + 14 + 2 := ⟨_, rfl, by decide +kernel⟩

end Koreo.C03
