/-
  C17 — Subscription registry stays consistent, acyclic and delivers exactly.
  Property theorems only; helper lemmas are in `Koreo/Lemmas/Registry.lean`.
  Model: `Koreo/Registry.lean` (hand transcription of src/koreo/registry.py with the F4 repair:
  `notify_subscribers` tolerates `QueueShutDown`); `Koreo/Gen/RegistryCatch.lean` is regenerated
  from the source on every run.

  "For every sequence of operations" is `∀ ops : List Op, … (run init ops)`; every theorem below
  that mentions `run init ops` is proved through the inductive invariant `Good` (`good_step`).
-/
import Koreo.Lemmas.Registry
import Koreo.Gen.RegistryCatch

namespace Koreo.C17
open Koreo.Registry

/-! ## the model's handler set is the one the source has now -/

theorem extraction_ok : Koreo.Gen.RegistryCatch.extractionOk = true := by decide

/-- `notify_subscribers` in the current source tolerates exactly what the model's repaired handler
    set tolerates (both `QueueFull` and `QueueShutDown`).  On the unrepaired tree this does not build. -/
theorem source_catch_set_is_repaired :
    ∀ e, caughtOf Koreo.Gen.RegistryCatch.notifyCaught e = caughtRepaired e := by
  intro e; cases e <;> decide +kernel

/-! ## invariants after every operation sequence -/

/-- every state reachable from the empty registry satisfies the invariant -/
theorem reachable_good (ops : List Op) : Good (run init ops) := good_run good_init ops

/-- 'who watches whom' and 'who is watched by whom' are exact inverses -/
theorem views_inverse (ops : List Op) (a b : Res) :
    b ∈ (run init ops).subs a ↔ a ∈ (run init ops).subscribers b :=
  (reachable_good ops).1.inv a b

/-- both views stay sets (the list representation never holds a duplicate) -/
theorem views_duplicate_free (ops : List Op) (a : Res) :
    ((run init ops).subs a).Nodup ∧ ((run init ops).subscribers a).Nodup :=
  ⟨(reachable_good ops).1.nodupSubs a, (reachable_good ops).1.nodupSubscribers a⟩

/-- the subscription graph has no cycle (no non-empty path from a resource to itself) -/
theorem acyclic_preserved (ops : List Op) : Acyclic (Edge (run init ops)) :=
  (reachable_good ops).1.acyclic

/-- in particular nobody watches itself -/
theorem no_self_subscription (ops : List Op) (a : Res) : a ∉ (run init ops).subs a :=
  fun h => acyclic_preserved ops a (.single h)

/-! ## refused operations leave the registry unchanged -/

/-- a subscription refused as a cycle changes nothing — on any state, not only reachable ones -/
theorem cycle_refused_unchanged (s : State) (op : Op) (h : (step s op).2 = .cycle) :
    (step s op).1 = s := by
  have ha := step_answer s op
  generalize step s op = res at ha h
  cases ha with
  | cycle => rfl
  | _ => cases h

/-- `unsubscribe` of something that is not subscribed raises `KeyError` and changes nothing;
    on reachable states the second `remove` can never be the one that fails -/
theorem keyError_unchanged (ops : List Op) (op : Op)
    (h : (step (run init ops) op).2 = .keyError) : (step (run init ops) op).1 = run init ops :=
  keyError_unchanged_of_good (reachable_good ops) h

/-- `subscribe_only_to` removes the subscriber from `_RESOURCE_SUBSCRIBERS[r]` with `set.remove`,
    which would raise if it were missing; with inverse views it never is -/
theorem only_to_remove_never_misses (ops : List Op) (sub : Res) (rs : List Res) (r : Res)
    (h : r ∈ ((run init ops).subs sub).filter (fun r => decide (r ∉ dedup rs))) :
    sub ∈ (run init ops).subscribers r :=
  (views_inverse ops sub r).mp (List.mem_filter.mp h).1

/-- The level-wise walk of `_check_for_cycles`, run with at least `nodes + 2` iterations on an
    acyclic graph, terminates, and raises exactly when the subscriber is reachable from one of the
    requested resources (following 'watches' edges, zero or more steps) — i.e. exactly when the new
    edges would close a cycle. -/
theorem cycle_check_complete (s : State) (sub : Res) (rs : List Res) (fuel : Nat)
    (hac : Acyclic (Edge s)) (hf : (nodes s.subsOf).length + 2 ≤ fuel) :
    checkLoop s.subs sub fuel (dedup rs) ≠ .outOfFuel ∧
    (checkLoop s.subs sub fuel (dedup rs) = .cycle ↔ ∃ r ∈ rs, Reach (Edge s) r sub) :=
  check_complete s sub rs hac fuel hf

/-- a refusal is always justified (no acyclicity or fuel hypothesis needed) -/
theorem cycle_check_sound (s : State) (sub : Res) (rs : List Res)
    (h : checkForCycles s sub rs = .cycle) : ∃ r ∈ rs, Reach (Edge s) r sub :=
  check_sound s sub rs _ h

/-- on every reachable state `subscribe_only_to` terminates and is refused iff it would close a cycle -/
theorem subscribe_only_to_refused_iff (ops : List Op) (sub : Res) (rs : List Res) :
    let s := run init ops
    (step s (.subscribeOnlyTo sub rs)).2 ≠ .diverged ∧
    ((step s (.subscribeOnlyTo sub rs)).2 = .cycle ↔ ∃ r ∈ rs, Reach (Edge s) r sub) ∧
    ((step s (.subscribeOnlyTo sub rs)).2 = .ok ↔ ¬ ∃ r ∈ rs, Reach (Edge s) r sub) :=
  subscribeOnlyTo_out (acyclic_preserved ops) sub rs

/-- the same for `subscribe` -/
theorem subscribe_refused_iff (ops : List Op) (sub r : Res) :
    let s := run init ops
    (step s (.subscribe sub r)).2 ≠ .diverged ∧
    ((step s (.subscribe sub r)).2 = .cycle ↔ Reach (Edge s) r sub) ∧
    ((step s (.subscribe sub r)).2 = .ok ↔ ¬ Reach (Edge s) r sub) := by
  intro s
  rw [subscribe_out]
  simpa using subscribeOnlyTo_out (acyclic_preserved ops) sub [r]

/-- acyclicity is what makes the loop end: on a state with a cycle that avoids the subscriber the
    walk never ends, whatever the fuel (so a broken invariant shows up as non-termination) -/
theorem cycle_check_diverges_on_cyclic_state (fuel : Nat) :
    checkLoop (fun _ => [0]) 1 fuel [0] = .outOfFuel := by
  induction fuel with
  | zero => rfl
  | succ f ih => simpa [checkLoop, dedup] using ih

/-- A notification reaches exactly the current subscribers that have a live queue (registered, not
    shut down, not full), each once, in nobody else's queue, and changes nothing else. -/
theorem notify_exactly_once (ops : List Op) (r : Res) (t : Nat) :
    let s := run init ops
    ∃ ds, (step s (.notify r t)).2 = .delivered ds ∧ ds.Nodup ∧
      (∀ x, x ∈ ds ↔ x ∈ s.subscribers r ∧ liveIn s.queues x = true) ∧
      (∀ x, (step s (.notify r t)).1.queues.find? x =
        if x ∈ ds then (s.queues.find? x).map (push (.event r (some t))) else s.queues.find? x) ∧
      (step s (.notify r t)).1.subsOf = s.subsOf ∧
      (step s (.notify r t)).1.subscribersOf = s.subscribersOf :=
  notify_exactly_once_of_good (reachable_good ops) r t

/-- Neither `notify_subscribers` nor the notifications inside `register` and `deregister` ever
    raise a queue exception — on any state, whoever was killed or deregistered before. -/
theorem notify_never_raises (s : State) (op : Op) (e : QErr) : (step s op).2 ≠ .raised e := by
  have ha := step_answer s op
  generalize step s op = res at ha
  cases ha <;> exact Out.noConfusion

/-- F4 on the model of the unrepaired handler set (`except QueueFull` only): after
    `subscribe(0,1); kill_resource(0)` a `notify_subscribers(1)` raises `QueueShutDown`.
    This is corpus/C17/kill_then_notify.json. -/
theorem notify_raises_without_shutdown_catch :
    outsWith caughtOriginal init
      [.register 0 0, .register 1 0, .subscribe 0 1, .kill 0, .notify 1 7] =
      [.delivered [], .delivered [], .ok, .ok, .raised .shutDown] := by decide

/-- the same history on the repaired model: nothing raised, nothing delivered to the killed queue -/
theorem kill_then_notify_repaired :
    outs init [.register 0 0, .register 1 0, .subscribe 0 1, .kill 0, .notify 1 7] =
      [.delivered [], .delivered [], .ok, .ok, .delivered []] := by decide

/-- Deregistering removes the resource's queue from the registry, leaves that queue drained, shut
    down and with no unfinished task (so every `get()` and `join()` waiting on it is released), drops
    all of the resource's own subscriptions (in both views), and tells its subscribers. -/
theorem deregister_releases (ops : List Op) (r : Res) (t : Nat) :
    let s := run init ops
    let s' := (step s (.deregister r t)).1
    s'.queues.find? r = none ∧ s'.subs r = [] ∧ (∀ b, r ∉ s'.subscribers b) ∧
    ∃ ds, (step s (.deregister r t)).2 = .released ((s.queues.find? r).map fun q => drainQ (killQ q)) ds ∧
      (∀ q, s.queues.find? r = some q →
        (drainQ (killQ q)).items = [] ∧ (drainQ (killQ q)).shut = true ∧ (drainQ (killQ q)).unfinished = 0) ∧
      (∀ x, x ∈ ds ↔ x ∈ s.subscribers r ∧ x ≠ r ∧ liveIn s.queues x = true) :=
  deregister_releases_of_good (reachable_good ops) r t

/-- `kill_resource` shuts the queue down but leaves it registered (this is why `notify` must
    tolerate `QueueShutDown`): afterwards the resource is not live, and nothing else changed -/
theorem kill_shuts_but_keeps_registered (s : State) (r : Res) (q : Queue)
    (h : s.queues.find? r = some q) :
    (step s (.kill r)).1.queues.find? r = some (killQ q) ∧ (killQ q).shut = true ∧
    liveIn (step s (.kill r)).1.queues r = false ∧
    (step s (.kill r)).1.subsOf = s.subsOf ∧ (step s (.kill r)).1.subscribersOf = s.subscribersOf := by
  rw [step_kill_some h]
  simp [killQ_shut, liveIn, Queue.live]

/-! ## the hypotheses are satisfiable: a concrete non-trivial history -/

/-- 2 watches 1 watches 0; closing the triangle is refused, re-pointing 2 is accepted; a killed
    subscriber is skipped, a deregistered one releases its queue -/
example :
    outs init [.register 0 0, .register 1 0, .register 2 1, .subscribe 1 0, .subscribe 2 1,
      .subscribe 0 2, .notify 0 5, .notify 1 6, .notify 1 7, .subscribeOnlyTo 2 [0, 0],
      .unsubscribe 2 1, .kill 1, .notify 0 8, .deregister 1 9, .deregister 0 10] =
    [.delivered [], .delivered [], .delivered [], .ok, .ok,
      .cycle, .delivered [1], .delivered [2], .delivered [], .ok,
      .keyError, .ok, .delivered [], .released (some ⟨[], true, 0, 0⟩) [], .released (some ⟨[], true, 0, 0⟩) []] := by
  decide

example : Acyclic (Edge (run init [.subscribe 1 0, .subscribe 2 1])) ∧
    Reach (Edge (run init [.subscribe 1 0, .subscribe 2 1])) 2 0 :=
  ⟨acyclic_preserved _, .tail (.tail (.refl 2) (show 1 ∈ State.subs _ 2 by decide)) (show 0 ∈ State.subs _ 1 by decide)⟩

end Koreo.C17
