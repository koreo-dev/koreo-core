/-
  C02 — Workflow result is independent of step completion order.
  Property theorems only; the lemmas are in `Koreo/Lemmas/WorkflowAsync.lean` (flat schedules: invariant, `collect`,
  `stateSpec` / `lastWrite`, existence of a schedule), `Koreo/Lemmas/WorkflowNested.lean` (nested schedules, `NInv`)
  and `Koreo/Lemmas/KindLookup.lean` (kind discovery).
  Model: `Koreo/Workflow.lean` — `runAsync` executes a *schedule* (a list of completion events: a step,
  or one iteration of a forEach step; an event is enabled iff it has not happened and every dependency
  of its step is done) and then `collect`s in LISTED order; `reconcile` is the sequential reference.

  All theorems hold for every CEL oracle, every Function oracle (in particular `runAt`, which runs
  sub-workflows), every trigger, every well-formed workflow of any size and every schedule.

  NOT expressible in this functional model (checked by the schedule sweep of harness/c02.py only):
  aliasing between forEach iterations (the per-iteration `copy.deepcopy(inputs)`), and *where* asyncio
  collects (inside the task vs. after the task group) — the model has no shared mutable maps.
-/
import Koreo.Lemmas.WorkflowAsync
import Koreo.Lemmas.WorkflowNested
import Koreo.Gen.WorkflowConsts
import Koreo.Lemmas.KindLookup

namespace Koreo.C02
open Koreo Koreo.Workflow

variable (eval : EvalFn) (run : RunFn) (trig : JVal) (wf : Workflow)

/-- invariant made visible: at every point of every executable schedule (complete or not), whatever has
    finished carries exactly the value the sequential reference computes for it -/
theorem partial_schedule_agrees (hwf : wf.WF = true) (σ : List Event) {st : AState}
    (h : runEvents eval run trig wf σ {} = some st) :
    (∀ l o, lookupL l st.done = some o → lookupL l (trace eval run trig wf).results = some o) ∧
    (∀ l i o, lookupI l i st.items = some o → ItemRef eval run trig wf (trace eval run trig wf).results l i o) :=
  let inv := inv_run eval run trig wf hwf σ (inv_init eval run trig wf _) h
  ⟨inv.done_ref, inv.items_ref⟩

/-- **C02**: for EVERY valid complete completion order σ (any number of steps and items) the asynchronous
    run returns exactly the sequential reference result — per-step outcomes, overall outcome, state,
    state errors, conditions and resource ids -/
theorem schedule_independent (hwf : wf.WF = true) (σ : List Event)
    (h : ValidComplete eval run trig wf σ) :
    runAsync eval run trig wf σ = some (reconcile eval run trig wf) := by
  obtain ⟨st, hrun, hall⟩ := h
  have inv := inv_run eval run trig wf hwf σ (inv_init eval run trig wf _) hrun
  rw [runAsync, hrun]
  exact congrArg some (collect_of_complete inv hall)

/-- two completion orders never disagree -/
theorem any_two_schedules_agree (hwf : wf.WF = true) (σ₁ σ₂ : List Event)
    (h₁ : ValidComplete eval run trig wf σ₁) (h₂ : ValidComplete eval run trig wf σ₂) :
    runAsync eval run trig wf σ₁ = runAsync eval run trig wf σ₂ := by
  rw [schedule_independent eval run trig wf hwf σ₁ h₁, schedule_independent eval run trig wf hwf σ₂ h₂]

/-- the hypothesis is never vacuous: every well-formed workflow has a valid complete schedule — completing
    everything in listed / source order (whatever the oracles answer) -/
theorem valid_schedule_exists (hwf : wf.WF = true) :
    ValidComplete eval run trig wf (listedSchedule eval run trig wf.steps {}) := by
  obtain ⟨ys, hrun⟩ := listedSchedule_run eval run trig wf (WF_nodup hwf) wf.steps {} []
    (fun s h => h) hwf (fun _ _ _ => rfl)
  exact ⟨_, hrun, fun s hs => isDone_iff.2 ⟨_, lookupL_trace eval run trig wf hwf hs⟩⟩

/-- the sequential pass is one of the asynchronous runs -/
theorem sequential_is_a_schedule (hwf : wf.WF = true) :
    runAsync eval run trig wf (listedSchedule eval run trig wf.steps {}) = some (reconcile eval run trig wf) :=
  schedule_independent eval run trig wf hwf _ (valid_schedule_exists eval run trig wf hwf)

/-- the same with sub-workflows reconciled `n` levels deep (each level is itself an instance of the theorem) -/
theorem schedule_independent_subworkflows (base : RunFn) (defs : Env) (n : Nat) (hwf : wf.WF = true)
    (σ : List Event) (h : ValidComplete eval (runAt eval base defs n) trig wf σ) :
    runAsync eval (runAt eval base defs n) trig wf σ = some (reconcile eval (runAt eval base defs n) trig wf) :=
  schedule_independent eval _ trig wf hwf σ h

/-- per-step results are the reference results, in listed order -/
theorem steps_listed_order (hwf : wf.WF = true) :
    (reconcile eval run trig wf).steps = (trace eval run trig wf).results := by
  simp only [reconcile, collect, listed_trace eval run trig wf hwf]
  exact (zip_labels wf.steps _ (trace_labels eval run trig wf hwf)).1

/-- a forEach step returns its results in SOURCE-list order whatever the completion order, iteration `j`
    having been evaluated on exactly the step's inputs plus item `j` under `inputKey` -/
theorem foreach_source_order (hwf : wf.WF = true) {s : Step} (hs : s ∈ wf.steps) {act inputs key items}
    (hg : gate eval trig (depRes (trace eval run trig wf).results s.deps) s = .each act inputs key items)
    (σ : List Event) (h : ValidComplete eval run trig wf σ) :
    ∃ r outs, runAsync eval run trig wf σ = some r ∧
      lookupL s.label r.steps = some (combineItems outs) ∧
      outs.length = items.length ∧
      (∀ j, outs[j]? = (items[j]?).map fun it =>
        (runLogic eval run s.label (some j) act (setKey key it inputs) s.logic).1) ∧
      ((∀ o ∈ outs, o.res.isErr = false) →
        (combineItems outs).res = .ok (.arr (outs.map fun o => encodeItem o.res))) := by
  refine ⟨reconcile eval run trig wf,
    (runItems eval run s.label act inputs key s.logic 0 items).map (·.1),
    schedule_independent eval run trig wf hwf σ h, ?_, ?_, ?_, ?_⟩
  · rw [steps_listed_order eval run trig wf hwf, lookupL_trace eval run trig wf hwf hs, stepResult_each hg]
  · simp [runItems_length]
  · intro j
    rw [List.getElem?_map, runItems_getElem?]
    cases items[j]? <;> simp
  · intro hne
    rw [combineItems_no_err _ hne]

/-- the merged state is the fold of the steps' published maps in LISTED order, whatever σ -/
theorem state_merge_listed_order (hwf : wf.WF = true) (σ : List Event)
    (h : ValidComplete eval run trig wf σ) (k : String) :
    ∃ r, runAsync eval run trig wf σ = some r ∧
      JVal.lookup k r.state =
        stateSpec eval k (wf.steps.zip ((trace eval run trig wf).results.map (·.2))) none := by
  refine ⟨_, schedule_independent eval run trig wf hwf σ h, ?_⟩
  simp only [reconcile, collect, lookup_mergeState, listed_trace eval run trig wf hwf]
  rfl

/-- on a shared key the LATER LISTED step wins — not the one that happened to finish last -/
theorem later_listed_step_wins (hwf : wf.WF = true) (σ : List Event)
    (h : ValidComplete eval run trig wf σ) {pre post : List (Step × StepOut)} {s : Step} {o : StepOut}
    {kvs : List (String × JVal)} {k : String} {v : JVal}
    (hx : wf.steps.zip ((trace eval run trig wf).results.map (·.2)) = pre ++ (s, o) :: post)
    (hs : stateStep eval s o = .upd kvs) (hv : lastWrite k kvs none = some v)
    (hpost : ∀ x ∈ post, ∀ kvs', stateStep eval x.1 x.2 = .upd kvs' → ∀ kv ∈ kvs', kv.1 ≠ k) :
    ∃ r, runAsync eval run trig wf σ = some r ∧ JVal.lookup k r.state = some v := by
  obtain ⟨r, hr, hk⟩ := state_merge_listed_order eval run trig wf hwf σ h k
  refine ⟨r, hr, ?_⟩
  rw [hk, hx, stateSpec_append]
  simp only [stateSpec, hs]
  rw [stateSpec_untouched eval k post _ hpost, lastWrite_eq_or, hv]
  rfl

/-- the overall outcome is `unwrapped_combine` (C03 model) of the results in LISTED order, whatever σ;
    so are the conditions and the resource ids -/
theorem overall_is_combine_listed (hwf : wf.WF = true) (σ : List Event)
    (h : ValidComplete eval run trig wf σ) :
    ∃ r, runAsync eval run trig wf σ = some r ∧
      r.overall = overallOf ((trace eval run trig wf).results.map (·.2)) ∧
      r.conditions = stepConds (wf.steps.zip ((trace eval run trig wf).results.map (·.2))) ++
        [{ type := "Ready", reason := reason r.overall }] ∧
      r.resourceIds = .obj [("workflow", .str wf.name),
        ("resources", .obj ((wf.steps.zip ((trace eval run trig wf).results.map (·.2))).map
          fun x => (x.1.label, x.2.rid)))] := by
  refine ⟨_, schedule_independent eval run trig wf hwf σ h, ?_⟩
  simp only [reconcile, collect, listed_trace eval run trig wf hwf,
    (zip_labels wf.steps _ (trace_labels eval run trig wf hwf)).2, and_self]

/-! ## nested schedules: inner steps of sub-workflows interleaved with outer steps

`Koreo/WorkflowNested.lean`: events are addressed by a path (`inside l idx e`: event `e` of the sub-workflow invocation
made by step `l`, for its forEach iteration `idx` if any); an inner event is enabled when the enclosing step has started
(dependencies done, gate passed, the Logic evaluated there is a sub-workflow with a definition) and the event is enabled
inside that invocation; the enclosing step / iteration completes only after all inner steps, with the inner result
collected in the inner LISTED order.  The reference is `reconcile` with `run := runAt eval base defs n`
(sub-workflows reconciled sequentially, `n` levels deep).  `defs` must hold well-formed definitions. -/

variable (base : RunFn) (defs : Env)

/-- the invariant made visible at every nesting level: after any executable nested prefix, whatever has finished
    in the top invocation carries the sequential reference value (and so, recursively, in every nested one: `NInv`) -/
theorem partial_nested_schedule_agrees (hdefs : ∀ name w, lookupL name defs = some w → w.WF = true)
    (n : Nat) (hwf : wf.WF = true) (σ : List NEvent) {st : NState}
    (h : nrunEvents eval base defs n wf trig σ .empty = some st) :
    NInv eval base defs n wf trig st ∧
    ∀ l o, lookupL l st.top.done = some o →
      lookupL l (trace eval (runAt eval base defs n) trig wf).results = some o := by
  have inv := ninv_run eval base defs hdefs n wf trig hwf σ (ninv_empty eval base defs n wf trig) h
  exact ⟨inv, inv.top_inv.done_ref⟩

/-- **C02, nested**: for EVERY valid complete nested schedule — inner and outer completion events interleaved in
    any enabled order, at ANY nesting depth `n`, any number of steps / items / invocations — the asynchronous run
    returns exactly the sequential reference result -/
theorem schedule_independent_nested (hdefs : ∀ name w, lookupL name defs = some w → w.WF = true)
    (n : Nat) (hwf : wf.WF = true) (σ : List NEvent)
    (h : ValidCompleteNested eval base defs n trig wf σ) :
    runAsyncNested eval base defs n trig wf σ = some (reconcile eval (runAt eval base defs n) trig wf) := by
  obtain ⟨st, hrun, hall⟩ := h
  have inv := ninv_run eval base defs hdefs n wf trig hwf σ (ninv_empty eval base defs n wf trig) hrun
  rw [runAsyncNested, hrun]
  exact congrArg some (collect_of_complete inv.top_inv hall)

/-- two nested schedules never disagree, and a nested schedule never disagrees with a flat one (in which every
    sub-workflow step is atomic) -/
theorem nested_schedules_agree (hdefs : ∀ name w, lookupL name defs = some w → w.WF = true)
    (n : Nat) (hwf : wf.WF = true) (σ₁ σ₂ : List NEvent) (τ : List Event)
    (h₁ : ValidCompleteNested eval base defs n trig wf σ₁) (h₂ : ValidCompleteNested eval base defs n trig wf σ₂)
    (h₃ : ValidComplete eval (runAt eval base defs n) trig wf τ) :
    runAsyncNested eval base defs n trig wf σ₁ = runAsyncNested eval base defs n trig wf σ₂ ∧
    runAsyncNested eval base defs n trig wf σ₁ = runAsync eval (runAt eval base defs n) trig wf τ := by
  rw [schedule_independent_nested eval trig wf base defs hdefs n hwf σ₁ h₁,
    schedule_independent_nested eval trig wf base defs hdefs n hwf σ₂ h₂,
    schedule_independent eval _ trig wf hwf τ h₃]
  exact ⟨rfl, rfl⟩

/-- at depth 0 (nothing is looked inside) a nested schedule is a flat one -/
theorem nested_depth_zero (σ : List Event) (st : AState)
    (h : runEvents eval base trig wf σ {} = some st) :
    (nrunEvents eval base defs 0 wf trig (σ.map .here) .empty).map (·.top) = some st := by
  rw [← h]; exact nrunEvents_zero_here eval base defs wf trig σ {} []

/-- the translator understood `_condition_helper` (one `reason` per outcome class, constant `status`) and
    found the three constants -/
theorem extraction_ok : Koreo.Gen.WorkflowConsts.extractionOk = true := by decide

/-- outcome class → condition `reason` (and the constant `status`) as regenerated from
    `_condition_helper` in src/koreo/workflow/reconcile.py -/
theorem condition_reasons_match_source :
    reason .depSkip = Koreo.Gen.WorkflowConsts.reasonDepSkip ∧
    reason .skip = Koreo.Gen.WorkflowConsts.reasonSkip ∧
    (∀ d, reason (.retry d) = Koreo.Gen.WorkflowConsts.reasonRetry) ∧
    reason .permFail = Koreo.Gen.WorkflowConsts.reasonPermFail ∧
    (∀ v, reason (.ok v) = Koreo.Gen.WorkflowConsts.reasonOk) ∧
    (∀ v, reason (.ok v) = Koreo.Gen.WorkflowConsts.reasonUnwrappedOk) ∧
    ({ type := "t", reason := "r" } : Condition).status = Koreo.Gen.WorkflowConsts.conditionStatus :=
  ⟨rfl, rfl, fun _ => rfl, rfl, fun _ => rfl, fun _ => rfl, rfl⟩

/-! ## non-vacuity: one workflow, three different valid complete completion orders, one answer -/

section example_
def exRun : RunFn := fun t inputs =>
  match t with
  | .fn "f" => ⟨.ok (.obj [("site", .str "f"), ("got", inputs)]), .obj [("name", .str "f")], ["GET f"]⟩
  | .fn "g" => ⟨.ok (.obj [("site", .str "g"), ("got", inputs)]), .null, []⟩
  | .fn "r" => ⟨.retry 7, .null, ["GET r", "POST r"]⟩
  | _ => ⟨.permFail, .null, []⟩

/-- `a` and `b` are independent and publish the same state key; `each` iterates over two items; `z` needs both -/
def exWf : Workflow :=
  { name := "ex"
    steps := [
      { label := "a", logic := .ref (.fn "f"), state := some (.mapE [("k", .path "value" ["site"])]),
        cond := some ("Ca", "a") },
      { label := "b", logic := .ref (.fn "g"), state := some (.mapE [("k", .path "value" ["site"])]) },
      { label := "each", deps := ["a"], logic := .ref (.fn "g"),
        inputs := some (.mapE [("from", .path "steps" ["a", "site"])]),
        forEach := some ⟨.lit (.arr [.str "p", .str "q"]), "item"⟩ },
      { label := "z", deps := ["b", "each"], logic := .ref (.fn "r"), cond := some ("Cz", "z") } ] }

def listedOrder : List Event := [.step "a", .step "b", .item "each" 0, .item "each" 1, .step "each", .step "z"]
def reversedOrder : List Event := [.step "b", .step "a", .item "each" 1, .item "each" 0, .step "each", .step "z"]
def interleaved : List Event := [.step "a", .item "each" 1, .step "b", .item "each" 0, .step "each", .step "z"]

example : exWf.WF = true := by decide

example : ValidComplete evalStd exRun .null exWf reversedOrder :=
  validComplete_of_check (by decide)

example : ValidComplete evalStd exRun .null exWf interleaved :=
  validComplete_of_check (by decide)

example : runAsync evalStd exRun .null exWf listedOrder = some (reconcile evalStd exRun .null exWf) :=
  schedule_independent _ _ _ _ (by decide) _ (validComplete_of_check (by decide))

/-- `b` finishes before `a` in `reversedOrder`, yet the later LISTED step `b` owns key `k`; the forEach list is
    in source order although item 1 finished first; the overall outcome is the Retry of `z` -/
example : ((runAsync evalStd exRun .null exWf reversedOrder).map fun r =>
      (r.state.map (·.1), (match JVal.lookup "k" r.state with | some (.str s) => s | _ => "?"), reason r.overall,
       r.conditions.map fun c => (c.type, c.reason))) =
    some (["k"], "g", "Wait", [("Ca", "Ready"), ("Cz", "Wait"), ("Ready", "Wait")]) := by decide +kernel

/-- a schedule that completes a step before its dependency is not executable -/
example : runEvents evalStd exRun .null exWf [.step "z"] {} = none := by decide
example : runEvents evalStd exRun .null exWf [.step "a", .step "each"] {} = none := by decide
end example_

/-! ### nested non-vacuity: inner steps of two sub-workflow invocations interleaved with outer steps -/

section nested_example
def nDefs : Env :=
  [("sub", { name := "sub"
             steps := [
               { label := "in0", logic := .ref (.fn "g"), inputs := some (.mapE [("p", .path "parent" ["p"])]),
                 state := some (.mapE [("first", .path "value" ["got", "p"])]) },
               { label := "in1", deps := ["in0"], logic := .ref (.fn "f"),
                 state := some (.mapE [("second", .path "steps" ["nope"])]) } ] })]

/-- `s` runs the sub-workflow once, `each` once per item, `z` joins -/
def nWf : Workflow :=
  { name := "outer"
    steps := [
      { label := "a", logic := .ref (.fn "f") },
      { label := "s", deps := ["a"], logic := .ref (.wf "sub"),
        inputs := some (.mapE [("p", .path "steps" ["a", "site"])]), cond := some ("Cs", "s") },
      { label := "each", logic := .ref (.wf "sub"), inputs := some (.mapE [("k", .lit (.int 1))]),
        forEach := some ⟨.lit (.arr [.str "x", .str "y"]), "p"⟩ },
      { label := "z", deps := ["s", "each"], logic := .ref (.fn "g") } ] }

/-- inner events of `s`, of iteration 1 and of iteration 0 interleaved with each other and with outer events -/
def nSchedule : List NEvent :=
  [ .inside "each" (some 1) (.here (.step "in0")),
    .here (.step "a"),
    .inside "s" none (.here (.step "in0")),
    .inside "each" (some 0) (.here (.step "in0")),
    .inside "each" (some 1) (.here (.step "in1")),
    .inside "s" none (.here (.step "in1")),
    .here (.item "each" 1),
    .here (.step "s"),
    .inside "each" (some 0) (.here (.step "in1")),
    .here (.item "each" 0),
    .here (.step "each"),
    .here (.step "z") ]

example : nWf.WF = true ∧ ∀ name w, lookupL name nDefs = some w → w.WF = true :=
  ⟨by decide, defsWF_of_check (by decide)⟩

private theorem nSchedule_valid : ValidCompleteNested evalStd exRun nDefs 1 .null nWf nSchedule :=
  validCompleteNested_of_check (by decide +kernel)

example : runAsyncNested evalStd exRun nDefs 1 .null nWf nSchedule =
    some (reconcile evalStd (runAt evalStd exRun nDefs 1) .null nWf) :=
  schedule_independent_nested evalStd .null nWf exRun nDefs (defsWF_of_check (by decide)) 1 (by decide)
    nSchedule nSchedule_valid

/-- an outer step may not complete before the inner steps of its sub-workflow, an inner step not before the
    enclosing step's dependencies -/
example : nrunEvents evalStd exRun nDefs 1 nWf .null [.here (.step "a"), .here (.step "s")] .empty = none := by
  decide
example : nrunEvents evalStd exRun nDefs 1 nWf .null [.inside "s" none (.here (.step "in0"))] .empty = none := by
  decide
end nested_example

/-! ## kind discovery inside a pass (`kind_lookup.get_plural_kind`) does not make the result depend on timing

Model `Koreo/KindLookup.lean`: tasks entering `get_plural_kind` (`call`), the API answering an owner's discovery
call (`answer`) and waiters running again (`wake`), in ANY interleaving, from the cold tables of a first pass.
If the in-flight lock is filed under the key the result is remembered under (`lk` injective — at HEAD it is the
same string), every request returns the plural the API serves for ITS OWN `kind.apiVersion`, whichever
discovery was in flight when it arrived: nobody raises "Waiting on … failed." and nobody is handed another
group's plural.  So the step outcome built on it is the same under every timing. -/
section kind_lookup
open Koreo.KindLookup

/-- every interleaving, any number of kinds / groups / requesters, lock entries kept or released -/
theorem discovery_independent_of_timing (c : Cfg) (hinj : ∀ a b, c.lk a = c.lk b → a = b)
    (σ : List Ev) {s : St} (h : KindLookup.run c cold σ = some s) (r : Nat) (k : Key) (p : Option String)
    (hr : s.reqs r = some (.done k p)) : p = some (c.srv k) :=
  (KindLookup.inv_run c hinj σ (KindLookup.inv_cold c) h).reqs_ok r _ hr

/-- the code at HEAD (lock key = result key, entries kept) is an instance -/
theorem discovery_independent_of_timing_head (srv : Key → String) (σ : List Ev) {s : St}
    (h : KindLookup.run (head srv) cold σ = some s) (r : Nat) (k : Key) (p : Option String)
    (hr : s.reqs r = some (.done k p)) : p = some (srv k) :=
  discovery_independent_of_timing (head srv) (fun _ _ e => e) σ h r k p hr

/-- two schedules that end with the same request answered give it the same answer -/
theorem discovery_schedules_agree (c : Cfg) (hinj : ∀ a b, c.lk a = c.lk b → a = b) (σ₁ σ₂ : List Ev) (r : Nat)
    (p₁ p₂ : Option String) (h₁ : KindLookup.answerOf c σ₁ r = some p₁) (h₂ : KindLookup.answerOf c σ₂ r = some p₂)
    (k : Key) (hk₁ : ∀ s, KindLookup.run c cold σ₁ = some s → ∃ p, s.reqs r = some (.done k p))
    (hk₂ : ∀ s, KindLookup.run c cold σ₂ = some s → ∃ p, s.reqs r = some (.done k p)) : p₁ = p₂ := by
  rw [answerOf_some c hinj h₁ hk₁, answerOf_some c hinj h₂ hk₂]

private def srvEx : Key → String := fun k => "plural of " ++ k
private def wordCfg : Cfg := ⟨kindWord, true, srvEx⟩
private def gcp := lookupKey "Bucket" "gcp.x/v1"
private def aws := lookupKey "Bucket" "aws.x/v1"

/-- the hypothesis is needed: with the lock filed under the bare kind word (two groups share it) and released
    when the lookup ends, request 2 (`Bucket.aws.x/v1`) is served when it arrives after the discovery of
    `Bucket.gcp.x/v1` has ended, and FAILS when it arrives while that call is in flight -/
example : KindLookup.answerOf wordCfg [.call 1 gcp, .answer 1, .call 2 aws, .answer 2] 2 = some (some "plural of Bucket.aws.x/v1") := by decide +kernel
example : KindLookup.answerOf wordCfg [.call 1 gcp, .call 2 aws, .answer 1, .wake 2] 2 = some none := by decide +kernel
/-- … whereas at HEAD both arrivals are served (and two tasks of ONE group share one discovery) -/
example : KindLookup.answerOf (head srvEx) [.call 1 gcp, .answer 1, .call 2 aws, .answer 2] 2 = some (some "plural of Bucket.aws.x/v1") := by decide
example : KindLookup.answerOf (head srvEx) [.call 1 gcp, .call 2 aws, .answer 1, .answer 2] 2 = some (some "plural of Bucket.aws.x/v1") := by decide
example : KindLookup.answerOf (head srvEx) [.call 1 gcp, .call 2 aws, .call 3 gcp, .answer 2, .answer 1, .wake 3] 3
    = some (some "plural of Bucket.gcp.x/v1") := by decide
/-- a waiter cannot run before its event is set; an owner is answered once -/
example : KindLookup.answerOf (head srvEx) [.call 1 gcp, .call 3 gcp, .wake 3] 3 = none := by decide
end kind_lookup

end Koreo.C02
