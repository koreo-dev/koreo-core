/-
  C16 — Hot reload is coherent: dependents are re-prepared after every change.
  Property theorems only.  The transition system is in `Koreo/HotReload.lean`; the inductive invariant
  and its preservation lemmas in `Koreo/Lemmas/HotReload.lean`; what the cache shows (`view`, `track`) and
  the pass that reaches an idle state in `Koreo/Lemmas/HotReloadLive.lean`; the link to the C17 registry
  model in `Koreo/Lemmas/HotReloadRegistry.lean`.

  Quantification: every universe of resources `R` (any size), every rank function (i.e. every
  acyclic declaration of dependencies), every finite history of offers / deletes / monitor
  steps in any interleaving (`Reachable`).
-/
import Koreo.Lemmas.HotReload
import Koreo.Lemmas.HotReloadLive
import Koreo.Lemmas.HotReloadRegistry
import Koreo.Gen.CacheFacts

namespace Koreo.C16
open Koreo.HotReload
variable {R : Type} [DecidableEq R] {Spec : Type}

/-- The atomicity facts the transition system relies on (offers, deletes and re-preparations do
    not suspend; the registry never awaits; the monitor awaits only its queue and the
    re-preparation; the drop rule is `event_time <= own prepare start`; `_handle_notifications`
    sets the prepare time, replaces subscriptions, notifies, then starts the monitor) are
    re-read from the current cache.py / registry.py on every run. -/
theorem atomicity_facts_hold : Koreo.Gen.CacheFacts.allHold = true := by decide

/-- reachable by some interleaving of operations and monitor steps; whatever the preparer `decl`
    may declare for an offered spec (it may look at which resources are cached) respects `rank` -/
def Reachable (decl : Spec → (R → Bool) → List R) (rank : R → Nat) (s : State R Spec) : Prop :=
  ∃ acts : List (Action R Spec), (∀ a ∈ acts, Ranked decl rank a) ∧ s = run decl init acts

theorem reachable_inv {decl : Spec → (R → Bool) → List R} {rank : R → Nat} {s : State R Spec}
    (h : Reachable decl rank s) : Inv decl rank s := by
  obtain ⟨acts, ha, rfl⟩ := h
  exact inv_run acts (inv_init decl rank) ha

/-- **Coherence.**  Once the system is idle, each cached entry was built from the current
    state of everything it depends on — for any timing of offers, deletes and monitor steps. -/
theorem coherent_when_idle {decl : Spec → (R → Bool) → List R} {rank : R → Nat} {s : State R Spec}
    (h : Reachable decl rank s) (hi : Idle s) : Coherent s := by
  have inv := reachable_inv h
  intro r e hc d hd
  rcases inv.fresh r e hc d hd with h1 | ⟨q, hq, t, ht, _⟩
  · exact h1
  · -- a pending event contradicts idleness: the entry has dependencies, so it has a monitor
    have ⟨hns, hw⟩ := hi r
    cases hm : s.mon r with
    | none => exact absurd hm (inv.watched r e hc (List.ne_nil_of_mem hd))
    | starting => exact absurd hm hns
    | waiting => rw [hw hm] at hq; cases hq; cases ht

/-- coherence is transitive by construction: the entry of a dependency is itself coherent, so an
    idle system is consistent along every dependency path -/
theorem coherent_along_paths {decl : Spec → (R → Bool) → List R} {rank : R → Nat} {s : State R Spec}
    (h : Reachable decl rank s) (hi : Idle s)
    (r d : R) (e ed : Entry R Spec) (hc : s.cache r = some e) (hd : d ∈ e.deps)
    (hcd : s.cache d = some ed) : e.seen d = s.gen d ∧ ∀ d' ∈ ed.deps, ed.seen d' = s.gen d' :=
  ⟨coherent_when_idle h hi r e hc d hd, fun d' hd' => coherent_when_idle h hi d ed hcd d' hd'⟩

/-- a change that is not yet reflected is always on its way: between idle points every stale
    dependency of a cached entry has an unprocessed event newer than the entry's preparation -/
theorem stale_implies_pending {decl : Spec → (R → Bool) → List R} {rank : R → Nat} {s : State R Spec}
    (h : Reachable decl rank s) (r : R) (e : Entry R Spec) (hc : s.cache r = some e) (d : R) (hd : d ∈ e.deps)
    (hstale : e.seen d ≠ s.gen d) : Pending s r ∧ s.mon r ≠ .none := by
  have inv := reachable_inv h
  refine ⟨(inv.fresh r e hc d hd).resolve_left hstale, ?_⟩
  exact inv.watched r e hc (List.ne_nil_of_mem hd)

/-- **A deleted resource leaves no watcher behind**: no subscriptions, no registry queue, no
    monitor — in every reachable state, not only at idle points. -/
theorem deleted_leaves_no_watcher {decl : Spec → (R → Bool) → List R} {rank : R → Nat} {s : State R Spec}
    (h : Reachable decl rank s) (r : R)
    (hc : s.cache r = none) : s.subs r = [] ∧ s.queue r = none ∧ s.mon r = .none := by
  obtain ⟨a, b, c⟩ := (reachable_inv h).uncached r hc
  exact ⟨a, c, b⟩

/-- an unversioned (or matching-version) delete does uncache -/
theorem delete_uncaches (s : State R Spec) (r : R) : (delete s r none).cache r = none := by
  cases hc : s.cache r with
  | none => rw [delete_keep fun e he => by rw [hc] at he; cases he]; exact hc
  | some e => rw [delete_eq hc rfl]; exact upd_same ..

/-- a delete that names a stale version changes nothing -/
theorem stale_delete_noop (s : State R Spec) (r : R) (e : Entry R Spec) (v : Nat) (hc : s.cache r = some e)
    (hv : v ≠ e.version) : delete s r (some v) = s :=
  delete_keep fun e' he' => by cases hc.symm.trans he'; simp [staleVersion, hv]

/-- **A (re-)offered resource is watched again**: every cached entry is subscribed to exactly
    its declared dependencies, has a registry queue and, if it has dependencies, a monitor —
    in every reachable state, in particular straight after delete-then-offer. -/
theorem cached_is_watched {decl : Spec → (R → Bool) → List R} {rank : R → Nat} {s : State R Spec}
    (h : Reachable decl rank s) (r : R)
    (e : Entry R Spec) (hc : s.cache r = some e) :
    s.subs r = e.deps ∧ (s.queue r).isSome = true ∧ (e.deps ≠ [] → s.mon r ≠ .none) := by
  have inv := reachable_inv h
  exact ⟨(inv.cached r e hc).1, (inv.cached r e hc).2, inv.watched r e hc⟩

/-- offering a version that is not the cached one always (re)prepares: the new entry carries the
    offered version and spec, declares what the preparer says for the cache as it is then, and was
    built from the current generations -/
theorem offer_new_version_prepares (decl : Spec → (R → Bool) → List R) (s : State R Spec) (r : R) (v : Nat)
    (spec : Spec) (hnew : ∀ e, s.cache r = some e → e.version ≠ v) :
    ∃ e, (offer decl s r v spec).cache r = some e ∧ e.version = v ∧ e.spec = spec ∧
      e.deps = decl spec (cachedB s) ∧ (offer decl s r v spec).subs r = e.deps ∧
      (offer decl s r v spec).gen r = s.gen r + 1 := by
  rw [offer_miss spec hnew, offerNew_eq]
  exact ⟨_, upd_same .., rfl, rfl, rfl, upd_same .., by simp [changeState, tick]⟩

/-- offering the cached version again is a no-op (nothing is prepared, nobody is notified) -/
theorem offer_same_version_noop (decl : Spec → (R → Bool) → List R) (s : State R Spec) (r : R)
    (e : Entry R Spec) (spec : Spec) (hc : s.cache r = some e) : offer decl s r e.version spec = s :=
  offer_hit spec hc

/-- **A background re-preparation re-declares.**  The preparer runs again on the cached spec and
    may declare other dependencies than last time (it looks at which resources are cached now);
    the entry records the new declaration and the resource follows exactly that from then on —
    while version and spec stay those of the last offer.  (`cached_is_watched` then says the
    subscription graph always equals the latest declarations.) -/
theorem reprepare_redeclares (decl : Spec → (R → Bool) → List R) (s : State R Spec) (r : R)
    (e : Entry R Spec) (hc : s.cache r = some e) :
    ∃ e', (reprepare decl s r).cache r = some e' ∧ e'.version = e.version ∧ e'.spec = e.spec ∧
      e'.deps = decl e.spec (cachedB s) ∧ (reprepare decl s r).subs r = e'.deps ∧
      e'.seen = s.gen ∧ (reprepare decl s r).gen r = s.gen r + 1 := by
  rw [reprepare_eq hc]
  exact ⟨_, upd_same .., rfl, rfl, rfl, upd_same .., rfl, by simp [changeState, tick]⟩

/-- **Latest offer wins, whatever the monitors do** (the cache's C15 clause in the presence of
    background re-preparation): in every state reached by any interleaving of offers, deletes
    and monitor steps, the version and spec the cache shows for each resource are exactly those
    of the last effective offer (`track` is a plain map that follows offers and deletes and
    ignores monitor steps) — a re-preparation never resurrects an older version or spec, and
    never brings a deleted entry back. No rank hypothesis is needed. -/
theorem cache_shows_last_offer (decl : Spec → (R → Bool) → List R) (acts : List (Action R Spec)) :
    view (run decl (init : State R Spec) acts) = acts.foldl track (fun _ => none) := by
  rw [view_run]; rfl

/-- in particular a monitor step never changes what is cached for whom -/
theorem monitor_step_keeps_versions (decl : Spec → (R → Bool) → List R) (s : State R Spec) (r : R) :
    view (bg decl s r) = view s := view_bg decl s r

/-- the subscription graph always respects the rank, so it is acyclic and the registry's cycle
    check (C17) never refuses a subscription issued by the cache -/
theorem subscriptions_ranked {decl : Spec → (R → Bool) → List R} {rank : R → Nat} {s : State R Spec}
    (h : Reachable decl rank s) :
    ∀ x, ∀ d ∈ s.subs x, rank d < rank x := (reachable_inv h).ranked

/-- **Idleness is attainable** (so the premise of `coherent_when_idle` is not vacuous): from every
    reachable state, letting each monitor run once, in rank order, reaches an idle — hence
    coherent — reachable state without any further operation. -/
theorem eventually_idle {decl : Spec → (R → Bool) → List R} {rank : R → Nat} {s : State R Spec}
    (h : Reachable decl rank s) :
    ∃ rs : List R, Idle (run decl s (rs.map Action.bg)) ∧
      Reachable decl rank (run decl s (rs.map Action.bg)) ∧
      Coherent (run decl s (rs.map Action.bg)) := by
  obtain ⟨acts, ha, rfl⟩ := h
  let rs := (offered acts).mergeSort fun a b => decide (rank a ≤ rank b)
  have hinv := inv_run acts (inv_init decl rank) ha
  have hidle : Idle (run decl (run decl init acts) (rs.map Action.bg)) :=
    settle hinv (offered acts) fun _ => mon_only_offered hinv
  have hreach : Reachable decl rank (run decl (run decl init acts) (rs.map Action.bg)) := by
    refine ⟨acts ++ rs.map Action.bg, ?_, by simp [run, List.foldl_append]⟩
    intro a hmem
    rcases List.mem_append.1 hmem with h1 | h1
    · exact ha a h1
    · obtain ⟨r, _, rfl⟩ := List.mem_map.1 h1; trivial
  exact ⟨rs, hidle, hreach, coherent_when_idle hreach hidle⟩

/-! ## the registry abstraction is faithful to the C17 model of `registry.py` -/

section Link
open Koreo.HotReload.Link
variable {SpecN : Type}

/-- **C16 ↔ C17.**  The hot-reload system abstracts the registry to `subs`/`queue`.  For every
    history (any interleaving, ranked declarations, resources numbered by `Nat` as in the C17
    model) there is a state `g` of the detailed C17 registry model — reached from its initial
    state by `registry.py` operations as the cache issues them (`register`, `subscribe_only_to`,
    `notify_subscribers`, `kill_resource`, `deregister`) and by the monitors emptying their own
    queues — such that the two agree: same subscriptions, and resource by resource the same
    (open, unbounded) queue holding the same event times.  In particular `subscribe_only_to` is
    never refused on the way (`abs_setSubs`: the level-wise cycle check answers "no cycle" because
    declarations are ranked), so no `SubscriptionCycle` escapes into the cache. -/
theorem registry_view_is_c17_reachable (decl : SpecN → (Nat → Bool) → List Nat) (rank : Nat → Nat)
    (acts : List (Action Nat SpecN)) (ha : ∀ a ∈ acts, Ranked decl rank a) :
    ∃ g, RegReach g ∧ Abs g (run decl init acts) :=
  real_run acts real_init (inv_init decl rank) ha

/-- hence what C17 proves of its model holds for the registry as the cache uses it: the two
    subscription indexes are inverse views of each other and duplicate-free, and the subscription
    graph is acyclic -/
theorem registry_invariants_transfer (decl : SpecN → (Nat → Bool) → List Nat) (rank : Nat → Nat)
    (acts : List (Action Nat SpecN)) (ha : ∀ a ∈ acts, Ranked decl rank a) :
    ∃ g, Abs g (run decl init acts) ∧
      (∀ a b, b ∈ g.subs a ↔ a ∈ g.subscribers b) ∧
      Koreo.Registry.Acyclic (Koreo.Registry.Edge g) ∧
      (∀ a, (g.subs a).Nodup ∧ (g.subscribers a).Nodup) := by
  obtain ⟨g, hr, habs⟩ := registry_view_is_c17_reachable decl rank acts ha
  have hg := regReach_good hr
  exact ⟨g, habs, hg.1.inv, hg.1.acyclic, fun a => ⟨hg.1.nodupSubs a, hg.1.nodupSubscribers a⟩⟩

/-- and a notification reaches exactly the subscribers that have a queue, once each: the
    deliveries the detailed delivery loop reports are those of the abstract `notify` -/
theorem notify_delivers_as_c17 {g : G} {s : State Nat SpecN} (hr : RegReach g) (h : Abs g s) (d t : Nat) :
    Abs (Koreo.Registry.step g (.notify d t)).1 (notify s d t) ∧
    ∃ ds, (Koreo.Registry.step g (.notify d t)).2 = .delivered ds ∧
      ∀ y, y ∈ ds ↔ (d ∈ s.subs y ∧ (s.queue y).isSome = true) :=
  abs_notifyWith (regReach_good hr) h d t (some t) (by intro t' e; cases e; rfl) .delivered

end Link

/-! ## non-vacuity: concrete histories over the preparer family the harness installs
    (`condDecl`: static dependencies plus dependencies declared only while another resource is
    cached) reach non-trivial states -/

/-- the harness's preparer family respects a rank as soon as the static and the conditional
    dependencies of the spec do (a failing preparation declares nothing) -/
theorem condDecl_specRanked {rank : R → Nat} {r : R} (sp : CondSpec R)
    (h1 : ∀ d ∈ sp.static, rank d < rank r) (h2 : ∀ p ∈ sp.cond, rank p.2 < rank r) :
    SpecRanked condDecl rank r sp := by
  intro c d
  fun_cases condDecl sp c <;> intro hd
  · cases hd
  · rcases List.mem_append.1 hd with h | h
    · exact h1 d h
    · obtain ⟨p, hp, rfl⟩ := List.mem_map.1 h
      exact h2 p (List.mem_filter.1 hp).1

def demoRank : Nat → Nat := id

abbrev DS := CondSpec Nat
def st (l : List Nat) : DS := { static := l, cond := [] }

/-- delete, then offer again at once -/
def demoActs : List (Action Nat DS) :=
  [.offer 0 1 (st []), .offer 1 1 (st [0]), .bg 1, .delete 1 none, .offer 1 2 (st [0]),
   .offer 0 2 (st []), .bg 1]

example : ∀ a ∈ demoActs, Ranked condDecl demoRank a := by
  intro a ha
  simp only [demoActs, List.mem_cons, List.mem_nil_iff, or_false] at ha
  -- the four offers by `condDecl_specRanked`; a delete or a monitor step is ranked by definition
  rcases ha with rfl | rfl | rfl | rfl | rfl | rfl | rfl
  · exact condDecl_specRanked _ (by simp [st]) (by simp [st])
  · exact condDecl_specRanked _ (by simp [st, demoRank]) (by simp [st])
  · trivial
  · trivial
  · exact condDecl_specRanked _ (by simp [st, demoRank]) (by simp [st])
  · exact condDecl_specRanked _ (by simp [st]) (by simp [st])
  · trivial

/-- before the last monitor step entry 1 is stale (built from generation 1 of resource 0, which is
    at generation 2) and has a pending event; after it the entry is current and the system idle -/
example : ((run condDecl init (demoActs.take 6)).cache 1).map (fun e => e.seen 0) = some 1 ∧
    (run condDecl init (demoActs.take 6)).gen 0 = 2 ∧
    (run condDecl init (demoActs.take 6)).queue 1 = some [11] ∧
    ((run condDecl init demoActs).cache 1).map (fun e => e.seen 0) = some 2 ∧
    (run condDecl init demoActs).queue 1 = some [] ∧ (run condDecl init demoActs).mon 1 = .waiting := by
  decide

/-- a preparer that looks at the cache (the FunctionTest shape): resource 2 follows 1 and, once 1
    is cached, 0 as well.  Offered while 1 is missing it follows `[1]`; after 1 is offered, the
    monitor re-prepares 2, which now follows `[1, 0]`; a later change of 0 reaches it. -/
def demoDyn : List (Action Nat DS) :=
  [.offer 2 1 { static := [1], cond := [(1, 0)] }, .offer 1 1 (st []), .bg 2, .offer 0 1 (st []), .bg 2]

example : ∀ a ∈ demoDyn, Ranked condDecl demoRank a := by
  intro a ha
  simp only [demoDyn, List.mem_cons, List.mem_nil_iff, or_false] at ha
  rcases ha with rfl | rfl | rfl | rfl | rfl
  · exact condDecl_specRanked _ (by simp [demoRank]) (by simp [demoRank])
  · exact condDecl_specRanked _ (by simp [st]) (by simp [st])
  · trivial
  · exact condDecl_specRanked _ (by simp [st]) (by simp [st])
  · trivial

example : (run condDecl init (demoDyn.take 1)).subs 2 = [1] ∧
    (run condDecl init (demoDyn.take 3)).subs 2 = [1, 0] ∧
    ((run condDecl init (demoDyn.take 4)).cache 2).map (fun e => e.seen 0) = some 0 ∧
    (run condDecl init (demoDyn.take 4)).gen 0 = 1 ∧
    ((run condDecl init demoDyn).cache 2).map (fun e => e.seen 0) = some 1 ∧
    (run condDecl init demoDyn).queue 2 = some [] := by
  decide

/-- a preparation that FAILS: resource 2 follows 1; its preparer fails while 0 is cached.  After 0
    arrives and 1 changes, the monitor re-prepares 2, the preparation fails, the failure is cached
    under the same version and 2 follows nothing any more — and its own watcher 3 is told. -/
def demoFail : List (Action Nat DS) :=
  [.offer 1 1 (st []), .offer 2 1 { static := [1], cond := [], failWhen := [0] }, .offer 3 1 (st [2]),
   .offer 0 1 (st []), .offer 1 2 (st []), .bg 2, .bg 3]

example : (run condDecl init (demoFail.take 3)).subs 2 = [1] ∧
    (run condDecl init demoFail).subs 2 = [] ∧
    ((run condDecl init demoFail).cache 2).map (fun e => e.version) = some 1 ∧
    ((run condDecl init (demoFail.take 6)).cache 3).map (fun e => e.seen 2) = some 1 ∧
    ((run condDecl init demoFail).cache 3).map (fun e => e.seen 2) = some 2 ∧
    (run condDecl init demoFail).gen 2 = 2 := by
  decide

end Koreo.C16
