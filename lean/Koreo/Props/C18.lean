/-
  C18 — FunctionTest cases chain sequentially; variant and skipped cases leave no trace.
  Property theorems only.  Model: `runCase` / `runCases` of `Koreo/FunctionTest.lean` (transcribed
  from `_run_test_case` / `_run_test_cases`); helper lemmas in `Koreo/Lemmas/FunctionTest.lean`.

  All theorems hold for case lists of ANY length, for every oracle `env` (the Function under test
  with its per-case mock API, and the CEL evaluation of `overlayResource`).

  The per-case mock API (`MockApi`, `_merge_overlay`) is modelled in `Koreo/MockApi.lean` as a state
  machine over GET / write / DELETE calls; the section "the per-case mock API" below proves, for every
  conversation a Function can have with it, what the runner reads back and hands to the next case.

  Not expressible in this functional model (checked by deep snapshots in harness/c18.py only):
  "no case can modify the Function under test or the base fixtures" — object identity / aliasing.
-/
import Koreo.Lemmas.FunctionTest
import Koreo.ResourceFn

namespace Koreo.C18
open Koreo JVal Koreo.FT
variable {Ov : Type}

/-! ## what one case hands on -/

/-- a skipped case does nothing at all -/
theorem skip_is_noop (env : Env Ov) (st : State) (c : Case Ov) (h : c.skip = true) :
    runCase env st c = (st, .skipped, false) := by
  simp [runCase, h]

/-- variant and skipped cases hand on exactly the state they received -/
theorem variant_skip_preserve_state (env : Env Ov) (st : State) (c : Case Ov)
    (h : c.skip = true ∨ c.variant = true) : (runCase env st c).1 = st :=
  (runCase_aux env st c (by rcases h with h | h <;> simp [isCore, h])).1

/-- a non-variant case that ran hands on the inputs it gave the Function (the overlaid ones) and the
    resource the mock materialised (or, without a request, the resource it started from), and is
    fatal exactly when it failed -/
theorem nonvariant_threads (env : Env Ov) (st : State) (c : Case Ov)
    (hs : c.skip = false) (hv : c.variant = false)
    (pass : Bool) (inputs : JVal) (resource : Option JVal) (res : FnResult)
    (hr : (runCase env st c).2.1 = .ran pass inputs resource res) :
    (runCase env st c).1 =
      { inputs := some inputs,
        resource := if res.eff.apiCalled then res.eff.materialized else resource } ∧
    (runCase env st c).2.2 = !pass ∧
    inputs = caseInputs st c ∧ res = env.fn inputs resource ∧ pass = verdict c.assertion res := by
  -- only a case that reached `finishCase` has a `.ran` result; there `variant = false` hands everything on
  rcases runCase_cases env st c with ⟨h, -⟩ | ⟨-, e | e | ⟨r, e⟩⟩
  · rw [hs] at h; cases h
  · rw [e] at hr; cases hr
  · rw [e] at hr; cases hr
  · rw [e] at hr ⊢
    simp only [finishCase, hv, Bool.false_eq_true, if_false, CaseResult.ran.injEq] at hr ⊢
    obtain ⟨rfl, rfl, rfl, rfl⟩ := hr
    exact ⟨rfl, rfl, rfl, rfl, rfl⟩

/-- a variant or skipped case aborts the run only through the setup error the property excludes
    (`overlayResource` before a resource exists) -/
theorem aux_fatal_iff_setup_error (env : Env Ov) (st : State) (c : Case Ov) (h : isCore c = false) :
    (runCase env st c).2.2 = true ↔ (runCase env st c).2.1 = .setupError :=
  (runCase_aux env st c h).2

/-! ## a case depends only on the base state and the non-variant cases before it -/

/-- The result of the case at any position is the result of running that case on the state produced
    by the NON-VARIANT, NON-SKIPPED cases before it (variant and skipped predecessors are invisible),
    provided the run got that far. -/
theorem case_depends_only_on_prefix (env : Env Ov) (st : State) (pre post : List (Case Ov)) (c : Case Ov)
    (h : (runCases env st pre).2 = false) :
    (runCases env st (pre ++ c :: post)).1[pre.length]? =
      some (runCase env (stateAfter env st (core pre)) c).2.1 := by
  obtain ⟨hl, happ⟩ := runCases_append env st pre (c :: post) h
  rw [happ, ← stateAfter_core, List.getElem?_append_right (by omega), hl, Nat.sub_self, runCases_cons]
  split <;> rfl

/-- the run stops at the first fatal case: nothing after it is executed -/
theorem stops_at_first_fatal (env : Env Ov) (st : State) (pre post : List (Case Ov)) (c : Case Ov)
    (h : (runCases env st pre).2 = false)
    (hf : (runCase env (stateAfter env st (core pre)) c).2.2 = true) :
    (runCases env st (pre ++ c :: post)).1.length = pre.length + 1 ∧
    (runCases env st (pre ++ c :: post)).2 = true := by
  obtain ⟨hl, happ⟩ := runCases_append env st pre (c :: post) h
  rw [← stateAfter_core] at hf
  rw [happ, runCases_cons, if_pos hf]
  simp [hl]

/-! ## removing, adding, reordering variant cases; removing skipped cases -/

/-- Two case lists with the same non-variant, non-skipped cases in the same order — i.e. lists that
    differ by removal, insertion or reordering of variant cases and removal (or insertion) of
    skipped cases — give every one of those cases the same result, up to and including the first
    failing one where both runs stop, and the same `fatal_error` flag.
    (`NoAuxFatal`: no variant case hits the setup error; see `aux_fatal_iff_setup_error`.) -/
theorem results_invariant_under_variant_edits (env : Env Ov) (st : State) (cs cs' : List (Case Ov))
    (hcore : core cs = core cs') (h : NoAuxFatal env st cs) (h' : NoAuxFatal env st cs') :
    coreResults cs (runCases env st cs).1 = coreResults cs' (runCases env st cs').1 ∧
    (runCases env st cs).2 = (runCases env st cs').2 := by
  have a := core_run env st cs h
  have b := core_run env st cs' h'
  rw [a.1, a.2, b.1, b.2, hcore]
  exact ⟨rfl, rfl⟩

/-- … they are the results of the list with every variant and skipped case deleted -/
theorem results_are_those_of_the_core (env : Env Ov) (st : State) (cs : List (Case Ov))
    (h : NoAuxFatal env st cs) :
    coreResults cs (runCases env st cs).1 = (runCases env st (core cs)).1 :=
  (core_run env st cs h).1

/-- removal: dropping any set of variant / skipped cases keeps the core -/
theorem core_after_removal (cs : List (Case Ov)) (keep : Case Ov → Bool)
    (hk : ∀ c, isCore c = true → keep c = true) : core (cs.filter keep) = core cs := by
  unfold core
  rw [List.filter_filter]
  congr 1
  funext c
  cases hc : isCore c with
  | true => simp [hk c hc]
  | false => simp

/-- insertion of a variant / skipped case anywhere keeps the core -/
theorem core_after_insertion (pre post : List (Case Ov)) (x : Case Ov) (hx : isCore x = false) :
    core (pre ++ x :: post) = core (pre ++ post) := by
  simp [core, List.filter_append, hx]

/-- moving a variant / skipped case across any neighbour keeps the core -/
theorem core_after_swap (pre post : List (Case Ov)) (x y : Case Ov) (hx : isCore x = false) :
    core (pre ++ x :: y :: post) = core (pre ++ y :: x :: post) := by
  simp only [core, List.filter_append, List.filter_cons, hx]
  cases isCore y <;> simp

/-- a variant case too gets the same result wherever it is placed between the same two non-variant
    cases, and whatever other variant / skipped cases surround it -/
theorem variant_result_depends_on_core_prefix (env : Env Ov) (st : State)
    (pre post pre' post' : List (Case Ov)) (c : Case Ov)
    (hcore : core pre = core pre')
    (h : (runCases env st pre).2 = false) (h' : (runCases env st pre').2 = false) :
    (runCases env st (pre ++ c :: post)).1[pre.length]? =
      (runCases env st (pre' ++ c :: post')).1[pre'.length]? := by
  rw [case_depends_only_on_prefix env st pre post c h,
    case_depends_only_on_prefix env st pre' post' c h', hcore]

/-! ## the per-case mock API (`Koreo/MockApi.lean`): what a case's conversation leaves for the next case -/

section MockApi
open Koreo.FT.Mock

/-- the mock belongs to one case: whatever the Function has done so far, a GET answers the case's own
    resource (never something an earlier request of the same case materialised) -/
theorem mock_get_answers_the_case_resource (cur : Option JVal) (cs : List Call) :
    answer (run (fresh cur) cs) .get = answer (fresh cur) .get := by
  rw [run_eq]; rfl

/-- `_api_called` is set exactly by mutating requests: reads alone leave no trace -/
theorem mock_apiCalled_iff_mutation (cur : Option JVal) (cs : List Call) :
    (run (fresh cur) cs).apiCalled = cs.any Call.isMutation := by
  rw [run_eq]; rfl

/-- `_delete_called` is set exactly by a DELETE -/
theorem mock_deleteCalled_iff_delete (cur : Option JVal) (cs : List Call) :
    (run (fresh cur) cs).deleteCalled = cs.any Call.isDelete := by
  rw [run_eq]; rfl

/-- `materialized` is what the LAST mutating request materialised over the case's own resource
    (`{}` for a DELETE), and nothing when there was none -/
theorem mock_materialized_is_last_mutation (cur : Option JVal) (cs : List Call) :
    (run (fresh cur) cs).materialized = (effectOf cur cs).materialized := by
  rw [run_eq]; exact Option.or_none

/-- the `Effect` of the C18/C19 model agrees with the mock on `_api_called` for every conversation -/
theorem effect_apiCalled_agrees (cur : Option JVal) (cs : List Call) :
    (effectOf cur cs).apiCalled = (run (fresh cur) cs).apiCalled := by
  rw [mock_apiCalled_iff_mutation, effectOf_apiCalled]

/-- ... and on `_delete_called` whenever the Function made at most one mutating request in the
    reconcile (what C07 bounds: `rejected_mutation_is_the_only_attempt`, `delete_only_by_mode_or_recreate`);
    so the three-valued `Effect` loses nothing the runner reads -/
theorem effect_exact_of_single_mutation (cur : Option JVal) (cs : List Call)
    (h : (cs.filter Call.isMutation).length ≤ 1) :
    (effectOf cur cs).deleteCalled = (run (fresh cur) cs).deleteCalled := by
  rw [mock_deleteCalled_iff_delete, effectOf_deleteCalled cur cs h]

/-- what the runner hands to the next case is `finishCase`'s expression over that `Effect` -/
theorem handedOn_is_finishCase_rule (cur : Option JVal) (cs : List Call) (resource : Option JVal) :
    handedOn (run (fresh cur) cs) resource =
      (if (effectOf cur cs).apiCalled then (effectOf cur cs).materialized else resource) := by
  rw [handedOn_run, effectOf_apiCalled]

/-- a case whose Function only read (or made no request) hands on the resource it started from -/
theorem readonly_case_hands_on_its_resource (cur : Option JVal) (cs : List Call) (resource : Option JVal)
    (h : cs.any Call.isMutation = false) : handedOn (run (fresh cur) cs) resource = resource := by
  rw [handedOn_run, h]; rfl

/-- a write when the case has no resource materialises exactly the body (a create) -/
theorem write_without_resource_is_the_body (cur : Option JVal) (body : JVal) (h : truthyO cur = false) :
    merged cur body = body :=
  merged_of_falsy body h

/-- a write over an existing resource replaces the top-level keys the body names (Python dict: unique
    keys) and keeps every other top-level key of the case's resource -/
theorem write_replaces_named_top_level_keys (b o : List (String × JVal)) (hb : b ≠ []) (hnd : (keys o).Nodup)
    (k : String) :
    ∃ m, merged (some (.obj b)) (.obj o) = .obj m ∧
      lookup k m = (match lookup k o with | some v => some v | none => lookup k b) := by
  exact ⟨_, merged_obj o hb, by rw [lookup_mergeTop k o b hnd]; cases lookup k o <;> rfl⟩

/-- after a non-variant case that deleted, the threaded resource is `{}`: a following case that uses
    `overlayResource` without giving a `currentResource` is the setup error (the runner has nothing to
    overlay), not an overlay of the deleted object -/
theorem overlay_after_delete_is_setup_error (env : Env Ov) (st : State) (c : Case Ov) (ov : Ov)
    (cur : Option JVal) (cs : List Call) (hdel : lastMutation cs = some .delete)
    (hst : st.resource = handedOn (run (fresh cur) cs) cur)
    (hs : c.skip = false) (ho : c.overlay = some ov) :
    runCase env st c = (st, .setupError, true) := by
  have hres : st.resource = some (.obj []) := by
    rw [hst, handedOn_is_finishCase_rule, effectOf_of_delete cur hdel]; rfl
  simp [runCase, hs, ho, hres, truthyO, truthy]

end MockApi


/-! ## a ResourceFunction under test: its conversation with the mock has at most one mutation -/

section RfOverMock
open Koreo.FT.Mock

def callOfRequest (m : Koreo.Identity.Method) (body : Option JVal) : Call :=
  match m with
  | .delete => Call.delete
  | .post => Call.write (body.getD (.obj []))
  | .patch => Call.write (body.getD (.obj []))

theorem callOfRequest_isMutation (m : Koreo.Identity.Method) (body : Option JVal) :
    (callOfRequest m body).isMutation = true := by
  cases m <;> rfl

/-- the conversation one reconcile of the ResourceFunction model (`Koreo/ResourceFn.lean`, the model C06/C07/C08
    tie to the real `reconcile_resource_function`) has with the case's mock: any number of reads, then the
    one mutating request of the run, if any -/
def callsOfRun (reads : Nat) (r : Koreo.ResourceFn.Run) : List Call :=
  List.replicate reads Call.get ++
    (match r.request with
     | none => []
     | some q => [callOfRequest q.method q.body])

theorem filter_replicate_get (n : Nat) : (List.replicate n Call.get).filter Call.isMutation = [] := by
  rw [List.filter_replicate]; rfl

/-- every run of the ResourceFunction model makes at most one mutating request … -/
theorem rf_conversation_has_single_mutation (reads : Nat) (r : Koreo.ResourceFn.Run) :
    ((callsOfRun reads r).filter Call.isMutation).length ≤ 1 := by
  unfold callsOfRun
  rw [List.filter_append, filter_replicate_get]
  cases r.request with
  | none => simp
  | some q => simp [List.filter, callOfRequest_isMutation]

/-- … so for a ResourceFunction under test the three-valued `Effect` the runner model threads is exactly
    what the mock recorded (`_api_called`, `_delete_called`, `materialized`), whatever the case's resource -/
theorem rf_effect_is_exact (reads : Nat) (r : Koreo.ResourceFn.Run) (cur : Option JVal) :
    (effectOf cur (callsOfRun reads r)).apiCalled = (run (fresh cur) (callsOfRun reads r)).apiCalled ∧
    (effectOf cur (callsOfRun reads r)).deleteCalled = (run (fresh cur) (callsOfRun reads r)).deleteCalled ∧
    (effectOf cur (callsOfRun reads r)).materialized = (run (fresh cur) (callsOfRun reads r)).materialized :=
  ⟨effect_apiCalled_agrees cur _,
   effect_exact_of_single_mutation cur _ (rf_conversation_has_single_mutation reads r),
   (mock_materialized_is_last_mutation cur _).symm⟩

end RfOverMock

/-! ## the hypotheses are satisfiable by a non-trivial run -/

/-- an echoing Function: returns what it received, never calls the API -/
def echoEnv : Env JVal where
  evalOverlay := fun ov _ base => some (deepOverlay base ov)
  fn := fun inputs res => ⟨.ok (.obj [("inputs", inputs), ("resource", res.getD .null)]), .none⟩

def exCases : List (Case JVal) :=
  [ { assertion := .outcome .ok, overrides := some (.obj [("a", .int 1)]) },
    { assertion := .outcome (.permFail "x"), variant := true, overrides := some (.obj [("a", .int 9)]) },
    { assertion := .outcome .ok, skip := true },
    { assertion := .ret (.obj [("inputs", .obj [("a", .int 1), ("b", .int 2)]), ("resource", .null)]),
      overrides := some (.obj [("b", .int 2)]) } ]

def exState : State := { inputs := some (.obj [("a", .int 0)]), resource := none }

example : NoAuxFatal echoEnv exState exCases := by
  simp [NoAuxFatal, exCases, isCore]
  decide

/-- the failing variant case (expects PermFail, gets Ok) does not stop the run, and the last case
    sees `a = 1` from the first case, not the variant's `a = 9` -/
example : (runCases echoEnv exState exCases).1.map (fun r => match r with
      | .ran p _ _ _ => some p | _ => none) = [some true, some false, none, some true] ∧
    (runCases echoEnv exState exCases).2 = false := by decide

example : coreResults exCases (runCases echoEnv exState exCases).1 =
    (runCases echoEnv exState (core exCases)).1 :=
  results_are_those_of_the_core echoEnv exState exCases (by simp [NoAuxFatal, exCases, isCore]; decide)


/-- a conversation GET, PATCH, GET over `{a: 1, b: {c: 2}}` with body `{b: {d: 3}}`: the second GET still
    answers the case's resource, the materialised object has `b` REPLACED (top-level), one mutation,
    so the `Effect` is exact -/
example :
    let cur : Option JVal := some (.obj [("a", .int 1), ("b", .obj [("c", .int 2)])])
    let cs : List Koreo.FT.Mock.Call := [.get, .write (.obj [("b", .obj [("d", .int 3)])]), .get]
    (Koreo.FT.Mock.answers (Koreo.FT.Mock.fresh cur) cs).map (·.isSome) = [true, true, true] ∧
    (Koreo.FT.Mock.run (Koreo.FT.Mock.fresh cur) cs).apiCalled = true ∧
    (Koreo.FT.Mock.run (Koreo.FT.Mock.fresh cur) cs).deleteCalled = false ∧
    ((cs.filter Koreo.FT.Mock.Call.isMutation).length ≤ 1) ∧
    (match (Koreo.FT.Mock.run (Koreo.FT.Mock.fresh cur) cs).materialized with
      | some (.obj m) => (match lookup "b" m with | some (.obj [("d", .int 3)]) => true | _ => false) &&
                         (match lookup "a" m with | some (.int 1) => true | _ => false)
      | _ => false) = true := by
  decide

end Koreo.C18
