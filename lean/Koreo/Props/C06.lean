/-
  C06 — Managed object identity is pinned to apiConfig.
  Property theorems only; helper lemmas are in `Koreo/Lemmas/{Identity,ResourceFn,Pipeline}.lean`.
  Models: `Koreo/Identity.lean` (`deepOverlay`, `forced`, `identity`, kr8s addressing),
  `Koreo/ResourceFn.lean` (`materialise`, `createPayload`, `patchPayload`, `reconcile`).

  The layers that could redirect an object — inline resource / ResourceTemplate (`tmpl`), every
  overlay and overlayRef function (`steps`), create.overlay (`createOv`), with whatever the inputs
  make them compute — are arbitrary values / arbitrary partial functions on the running resource:
  every theorem below quantifies over all of them.
-/
import Koreo.Lemmas.Pipeline

namespace Koreo.C06
open Koreo JVal Koreo.Identity Koreo.Payload Koreo.ResourceFn

/-! ## the forced overlay wins -/

/-- Laid over **any** value `x` — any template result, `metadata` a map, a scalar, a list, null or
    missing, `apiVersion`/`kind` anything — the forced overlay leaves exactly apiConfig's identity. -/
theorem forced_wins (x : JVal) (ver kind name ns : String) :
    identity (deepOverlay x (forced ⟨ver, kind, name, some ns⟩)) =
      ⟨some (.str ver), some (.str kind), some (.str name), some (.str ns)⟩ := by
  obtain ⟨h1, h2, h3, h4⟩ := Rf.pinned_deepOverlay_forced x ⟨ver, kind, name, some ns⟩
  simp only [identity, h1, h2, h3, h4 ns rfl]

/-- no namespace in apiConfig (cluster-scoped kinds): version, kind and name are still forced -/
theorem forced_wins_cluster_scoped (x : JVal) (ver kind name : String) :
    (identity (deepOverlay x (forced ⟨ver, kind, name, none⟩))).apiVersion = some (.str ver) ∧
    (identity (deepOverlay x (forced ⟨ver, kind, name, none⟩))).kind = some (.str kind) ∧
    (identity (deepOverlay x (forced ⟨ver, kind, name, none⟩))).name = some (.str name) := by
  obtain ⟨h1, h2, h3, _⟩ := Rf.pinned_deepOverlay_forced x ⟨ver, kind, name, none⟩
  exact ⟨h1, h2, h3⟩

/-- the same, as the predicate the pipeline theorems use -/
theorem forced_wins_pinned (x : JVal) (t : Target) : Pinned t (deepOverlay x (forced t)) :=
  Rf.pinned_deepOverlay_forced x t

/-- `Pinned` is exactly "the identity is apiConfig's" when apiConfig names a namespace -/
theorem pinned_iff_identity (v : JVal) (ver kind name ns : String) :
    Pinned ⟨ver, kind, name, some ns⟩ v ↔
      identity v = ⟨some (.str ver), some (.str kind), some (.str name), some (.str ns)⟩ := by
  simp only [Pinned, identity, Ident.mk.injEq, Option.some.injEq, forall_eq']

/-! ## nothing after the forced overlay touches the identity -/

theorem strip_preserves_identity (t : Target) (v : JVal) (h : Pinned t v) : Pinned t (strip v) :=
  Rf.pinned_strip t v h

/-- `resource_view["metadata"]["ownerReferences"] = refs` -/
theorem ownerRefs_preserve_identity (t : Target) (refs v v' : JVal)
    (h : setMetaKey "ownerReferences" refs v = some v') (hp : Pinned t v) : Pinned t v' :=
  Rf.pinned_congr (Rf.identity_setMetaKey h (by simp) (by simp)) hp

/-- `_prepare_for_api` (strip + the last-applied annotation and its containers) -/
theorem prepareForApi_preserves_identity (t : Target) (enc : JVal → String) (o p : JVal)
    (h : prepareForApi enc o = some p) (hp : Pinned t o) : Pinned t p :=
  Rf.pinned_prepareForApi t h hp

/-- the target a reconcile compares and patches with: for every template and every list of overlay steps -/
theorem materialise_identity (t : Target) (tmpl : JVal) (steps : List Step) (e : JVal)
    (h : materialise (forced t) tmpl steps = some e) : Pinned t e :=
  Rf.materialise_pinned t h

/-! ## the class a function talks through is its own apiConfig's -/

/-- `_prepare_api_config`: every function gets the class of **its own** apiVersion and kind —
    nothing is shared between functions of the same kind or group (the class is a function of
    the spec alone), so a second function for another version of the same kind keeps its version -/
theorem prepared_class_follows_apiConfig (a : ApiConfigSpec) :
    a.cls.ver = a.apiVersion ∧ a.cls.kind = a.kind ∧ a.cls.plural = a.plural ∧ a.cls.namespaced = a.namespaced :=
  ⟨rfl, rfl, rfl, rfl⟩

theorem request_of_reconcile {enc : JVal → String} {defNs : String} {cmp : JVal → JVal → Bool} {pp : Bool}
    {rf : Rf} {owner : Owner} {stored : Option JVal} {req : Request}
    (h : (reconcile enc defNs cmp pp rf owner stored).request = some req) :
    (reconcileKrm enc defNs cmp rf owner stored).request = some req := Rf.request_of_reconcile h

/-- a namespaced kind whose `apiConfig.namespace` evaluates to nothing (`""`, null, missing) is
    never sent anywhere: no request, no API access at all, PermFail — whatever namespace the
    inline resource, a template or an overlay names -/
theorem namespaced_without_namespace_touches_nothing (enc : JVal → String) (defNs : String)
    (cmp : JVal → JVal → Bool) (pp : Bool) (rf : Rf) (owner : Owner) (stored : Option JVal)
    (hn : rf.api.namespaced = true) (hns : rf.ns = none) :
    (reconcile enc defNs cmp pp rf owner stored).request = none ∧
    (reconcile enc defNs cmp pp rf owner stored).action = .noApiAtAll ∧
    (pp = true → (reconcile enc defNs cmp pp rf owner stored).outcome = some .permFail) := by
  cases pp
  · exact ⟨rfl, rfl, nofun⟩
  · rw [Rf.reconcile_noNamespace _ _ _ _ _ _ (by rw [hn, hns]; rfl)]
    exact ⟨rfl, rfl, fun _ => rfl⟩

/-- so every request of a namespaced function is made for a namespace apiConfig evaluated to -/
theorem request_implies_namespace {enc : JVal → String} {defNs : String} {cmp : JVal → JVal → Bool} {pp : Bool}
    {rf : Rf} {owner : Owner} {stored : Option JVal} {req : Request}
    (h : (reconcile enc defNs cmp pp rf owner stored).request = some req) (hn : rf.api.namespaced = true) :
    ∃ n, rf.ns = some n := by
  cases hns : rf.ns with
  | some n => exact ⟨n, rfl⟩
  | none =>
    have := (namespaced_without_namespace_touches_nothing enc defNs cmp pp rf owner stored hn hns).1
    rw [this] at h; cases h

/-- every POST body carries exactly the apiVersion, kind, metadata.name (and namespace, when
    apiConfig names one) that apiConfig evaluates to — for every template, overlay list, overlay
    function, create overlay, owner, stored state and comparator -/
theorem create_payload_identity (enc : JVal → String) (defNs : String) (cmp : JVal → JVal → Bool) (pp : Bool)
    (rf : Rf) (owner : Owner) (stored : Option JVal) (req : Request)
    (h : (reconcile enc defNs cmp pp rf owner stored).request = some req) (hm : req.method = .post) :
    ∃ b, req.body = some b ∧ Pinned rf.target b := by
  obtain ⟨view, p, _, hp, rfl⟩ := hm ▸ Rf.request_cases h
  exact ⟨p, rfl, Rf.createPayload_pinned rf.target hp⟩

/-- every PATCH body likewise -/
theorem patch_payload_identity (enc : JVal → String) (defNs : String) (cmp : JVal → JVal → Bool) (pp : Bool)
    (rf : Rf) (owner : Owner) (stored : Option JVal) (req : Request)
    (h : (reconcile enc defNs cmp pp rf owner stored).request = some req) (hm : req.method = .patch) :
    ∃ b, req.body = some b ∧ Pinned rf.target b := by
  obtain ⟨live, e, p, n, _, he, hp, _, rfl⟩ := hm ▸ Rf.request_cases h
  exact ⟨p, rfl, Rf.patchPayload_pinned rf.target (Rf.materialise_pinned rf.target he) hp⟩

/-- the POST goes to the class's endpoint, in the namespace apiConfig evaluates to (namespaced
    kinds; `prepare` and `reconcile_krm_resource` insist on one) or without a namespace
    (cluster-scoped kinds); the name travels in the body, which is pinned -/
theorem create_addressed_to_identity (enc : JVal → String) (defNs : String) (cmp : JVal → JVal → Bool) (pp : Bool)
    (rf : Rf) (owner : Owner) (stored : Option JVal) (req : Request)
    (h : (reconcile enc defNs cmp pp rf owner stored).request = some req) (hm : req.method = .post) :
    req.plural = rf.api.plural ∧ req.version = rf.api.ver ∧
    (∀ n, rf.api.namespaced = true → rf.ns = some n → req.nsArg = some (.str n)) ∧
    (rf.api.namespaced = false → req.nsArg = none) ∧
    (∃ b, req.body = some b ∧ metaKey "name" b = some (.str rf.name)) := by
  obtain ⟨view, p, _, hp, rfl⟩ := hm ▸ Rf.request_cases h
  obtain ⟨_, _, hname, hns⟩ := Rf.createPayload_pinned rf.target hp
  refine ⟨rfl, rfl, fun n hnsd hn => ?_, fun hnsd => ?_, p, rfl, hname⟩
  · simp [krNamespace, hnsd, hns n hn]
  · simp [krNamespace, hnsd]

/-- the loaded object as kr8s sees it keeps the stored name and, for namespaced kinds, lives in
    the namespace it was asked for -/
theorem loaded_address (c : ApiClass) (stored loaded : JVal) (ns : Option String)
    (h : krLoaded c stored ns = some loaded) :
    metaKey "name" loaded = metaKey "name" stored ∧
    (∀ n, c.namespaced = true → ns = some n → metaKey "namespace" loaded = some (.str n)) :=
  Rf.krLoaded_spec h

/-- a PATCH (and a DELETE) is addressed to the object that was loaded: same endpoint, the loaded
    object's name — which is apiConfig's name when the server answered the GET for that name —
    and the namespace the GET was made in -/
theorem patch_addressed_to_loaded (enc : JVal → String) (defNs : String) (cmp : JVal → JVal → Bool) (pp : Bool)
    (rf : Rf) (owner : Owner) (stored : JVal) (req : Request)
    (h : (reconcile enc defNs cmp pp rf owner (some stored)).request = some req)
    (hm : req.method = .patch ∨ req.method = .delete) :
    req.plural = rf.api.plural ∧ req.version = rf.api.ver ∧ req.name = metaKey "name" stored ∧
    (metaKey "name" stored = some (.str rf.name) → req.name = some (.str rf.name)) ∧
    (∀ n, rf.api.namespaced = true → rf.ns = some n → req.nsArg = some (.str n)) ∧
    (rf.api.namespaced = false → req.nsArg = none) := by
  obtain ⟨live, hl, hn, hpl, hver, hns⟩ := Rf.loaded_of_reconcile h hm
  rw [Rf.loadedOf_some] at hl
  have hla := loaded_address rf.api stored live rf.ns hl
  have hname : req.name = metaKey "name" stored := by rw [← hn, hla.1]
  refine ⟨hpl, hver, hname, fun hs => by rw [hname, hs], fun n hc hn' => ?_, fun hc => ?_⟩
  · simp [hns, krNamespace, hc, hla.2 n hc hn']
  · simp [hns, krNamespace, hc]

/-! ## an adversarial stack that does send something -/

section example_
def evilTemplate : JVal :=
  .obj [("apiVersion", .str "v1"), ("kind", .str "Secret"), ("metadata", .int 5), ("spec", .obj [("a", .int 1)])]
/-- an overlay step that replaces `metadata` by a map naming another object and changes the kind -/
def evilStep : Step := fun r =>
  match r with
  | .obj kvs => some (.obj (JVal.insert "kind" (.str "ClusterRole")
      (JVal.insert "metadata" (.obj [("name", .str "admin"), ("namespace", .str "kube-system")]) kvs)))
  | _ => none
/-- a create overlay that replaces `metadata` by a list -/
def evilCreate : Step := fun r =>
  match r with
  | .obj kvs => some (.obj (JVal.insert "metadata" (.arr [.str "x"]) kvs))
  | _ => none
def exampleRf : Rf :=
  { api := ⟨"verif.test/v1", "Widget", "widgets", true⟩, name := "obj", ns := some "ns1", readonly := false,
    owned := true, createEnabled := true, deleteIfExists := false, policy := .patch,
    tmpl := evilTemplate, steps := [evilStep], createOv := some evilCreate }
def exampleOwner : Owner := ⟨some "ns1", .obj [("uid", .str "u")]⟩

/-- the adversarial function does POST, so `create_payload_identity` is not vacuous … -/
example : ((reconcile (fun _ => "") "default" (fun _ _ => true) true exampleRf exampleOwner none).request.map
    fun r => r.method) = some .post := by decide +kernel
def strOf : Option JVal → Option String
  | some (.str s) => some s
  | _ => none
def idStrings (v : JVal) : List (Option String) :=
  [strOf (getKey "apiVersion" v), strOf (getKey "kind" v), strOf (metaKey "name" v), strOf (metaKey "namespace" v)]
/-- … and what it posts is pinned (checked by evaluation, independently of the theorem) -/
example : ((reconcile (fun _ => "") "default" (fun _ _ => true) true exampleRf exampleOwner none).request.bind
    fun r => r.body.map idStrings) = some [some "verif.test/v1", some "Widget", some "obj", some "ns1"] := by decide +kernel
/-- without the forced overlays the same stack would have sent another object's identity -/
example : ((applyCreateOv exampleRf.createOv =<< runSteps exampleRf.tmpl exampleRf.steps).map idStrings) =
    some [some "v1", some "ClusterRole", none, none] := by decide
end example_

/-! ## key conversion (F18): the pin is applied after CEL keys have become text -/

/-- whatever CEL value the template / overlays produced — typed keys and all — the object that
    `_pin_identity` leaves after `convert_bools` carries apiConfig's identity -/
theorem identity_survives_key_conversion (t : Target) (c : CVal) (kvs : Fields)
    (h : convert c = .obj kvs) : Pinned t (pinIdentity t (convert c)) := by
  rw [h]
  exact forced_wins_pinned (.obj kvs) t

/-- the pin is idempotent on what it produced: pinning the converted object is not undone by a
    second conversion-free pass (the patch path pins, compares, and sends the same object) -/
theorem pin_of_pinned_is_pinned (t : Target) (v : JVal) (kvs : Fields) (h : v = .obj kvs) :
    Pinned t (pinIdentity t (pinIdentity t v)) := by
  subst h
  exact forced_wins_pinned (deepOverlay (.obj kvs) (forced t)) t

/-- a `metadata` map with the text key `name` and a bytes key whose base64 text is "name" -/
def foldingMetadata : CVal :=
  .map [(.text "name", .plain (.str "obj")), (.text "namespace", .plain (.str "ns1")),
        (.bytes "name", .plain (.str "evil-name"))]

/-- why the pin has to come AFTER the conversion: a metadata map that is pinned as a CEL value (its text
    key `name` holds apiConfig's name) converts to one that names another object, because the bytes key
    whose base64 text is "name" folds onto it.  (The failing input of F18, in the model.) -/
theorem conversion_can_fold_onto_identity :
    metaKey "name" (convert (.map [(.text "metadata", foldingMetadata)])) = some (.str "evil-name") := by
  rfl

/-- ... and with the pin after the conversion the same value is sent under apiConfig's identity -/
example : metaKey "name" (pinIdentity ⟨"v1", "Thing", "obj", some "ns1"⟩
    (convert (.map [(.text "metadata", foldingMetadata)]))) = some (.str "obj") := by
  rfl

end Koreo.C06
