/-
  One step and the sequential run of `Koreo/Workflow.lean` (C01; C02 and C09 build on it).  Core Lean only.

  A step is analysed once: `gate` by the branch equations C01 uses (five of its eight exits have one) and two
  inversions (`gate_each`, `gate_evalAt`, by the case principle Lean derives for it), one evaluation of a Logic by the
  target it selects, and from these every call made on a step's behalf (`mem_stepResult_calls`).  The run is a
  fixpoint: its trace is `stepResult` applied, step by step, to the dependencies' entries of its own *final* results
  (`runSteps_eq`), so that a statement about a step of a finished run is a statement about `stepResult`.  At the end,
  for the nested semantics: `runAt` on a Function and on an unknown sub-workflow (`runAt_fn`, `runAt_unknown`) and what
  a sub-workflow step hands back (`subOut_stepOut`).

  `logicTarget` and `Gate.evalAt` (declared in `Koreo/WorkflowNested.lean`) describe a single evaluation of a
  Logic and are used from here on.
-/
import Koreo.WorkflowNested

namespace Koreo.Workflow
open Koreo Koreo.Result

section lookup
variable {α : Type}

theorem lookupL_eq_lookup (l : Label) (xs : List (Label × α)) : lookupL l xs = xs.lookup l := by
  -- empty list; the head's key is `l`; the head's key is another one
  fun_induction lookupL l xs with
  | case1 => rfl
  | case2 v rest => simp
  | case3 k v rest e ih => rw [ih, List.lookup_cons, beq_false_of_ne (Ne.symm e)]

theorem lookupL_append (l : Label) (xs ys : List (Label × α)) :
    lookupL l (xs ++ ys) = (lookupL l xs).or (lookupL l ys) := by
  simp only [lookupL_eq_lookup, List.lookup_append]

theorem lookupL_mem {l : Label} {xs : List (Label × α)} {v : α} (h : lookupL l xs = some v) :
    (l, v) ∈ xs := by
  obtain ⟨l₁, l₂, rfl, -⟩ := List.lookup_eq_some_iff.1 (lookupL_eq_lookup l xs ▸ h)
  exact List.mem_append_right _ List.mem_cons_self

theorem lookupL_none_of_not_mem {l : Label} {xs : List (Label × α)} (h : l ∉ xs.map (·.1)) :
    lookupL l xs = none := by
  cases e : lookupL l xs with
  | none => rfl
  | some v => exact absurd (List.mem_map.2 ⟨(l, v), lookupL_mem e, rfl⟩) h

theorem lookupL_some_of_mem {l : Label} {xs : List (Label × α)} (h : l ∈ xs.map (·.1)) :
    ∃ v, lookupL l xs = some v := by
  obtain ⟨p, hp, rfl⟩ := List.mem_map.1 h
  rw [lookupL_eq_lookup]
  exact Option.isSome_iff_exists.1 (List.lookup_isSome_iff.2 ⟨p, hp, beq_self_eq_true _⟩)

theorem lookupL_append_left {l : Label} {xs ys : List (Label × α)} {v : α}
    (h : lookupL l xs = some v) : lookupL l (xs ++ ys) = some v := by
  rw [lookupL_append, h]; rfl

theorem lookupL_append_right {l : Label} {xs ys : List (Label × α)}
    (h : l ∉ xs.map (·.1)) : lookupL l (xs ++ ys) = lookupL l ys := by
  rw [lookupL_append, lookupL_none_of_not_mem h]; rfl

theorem lookupL_singleton (l : Label) (v : α) : lookupL l [(l, v)] = some v := by
  simp [lookupL]

theorem lookupL_append_singleton {l l' : Label} {xs : List (Label × α)} {v v' : α}
    (h : lookupL l' (xs ++ [(l, v)]) = some v') : lookupL l' xs = some v' ∨ (l' = l ∧ v' = v) := by
  rcases Option.or_eq_some_iff.1 (lookupL_append l' xs _ ▸ h) with h | ⟨-, h⟩
  · exact Or.inl h
  · exact Or.inr (by simpa using lookupL_mem h)

end lookup

theorem okVals_none_iff (dr : List (Label × StepRes)) :
    okVals dr = none ↔ ∃ x ∈ dr, x.2.isOk = false := by
  induction dr with
  | nil => simp [okVals]
  | cons x xs ih =>
    obtain ⟨l, r⟩ := x
    -- an Ok head passes the question on to the tail; any other head answers it
    cases r with
    | ok v =>
      simp only [okVals, Option.map_eq_none_iff, ih, List.mem_cons, exists_eq_or_imp, StepRes.isOk,
        Bool.true_eq_false, false_or]
    | _ => exact ⟨fun _ => ⟨_, List.mem_cons_self, rfl⟩, fun _ => rfl⟩

theorem okVals_some (dr : List (Label × StepRes)) {oks} (h : okVals dr = some oks) :
    dr = oks.map fun kv => (kv.1, StepRes.ok kv.2) := by
  -- empty list; an Ok head; any other head, where `okVals` answers `none`
  fun_induction okVals dr generalizing oks with
  | case1 => cases h; rfl
  | case2 l v rest ih =>
    obtain ⟨rest', hrest, rfl⟩ := Option.map_eq_some_iff.1 h
    rw [List.map_cons, ← ih hrest]
  | case3 => cases h

theorem okVals_some_all (dr : List (Label × StepRes)) {oks} (h : okVals dr = some oks) :
    ∀ x ∈ dr, ∃ v, x.2 = .ok v := by
  intro x hx
  rw [okVals_some dr h] at hx
  obtain ⟨kv, -, rfl⟩ := List.mem_map.1 hx
  exact ⟨kv.2, rfl⟩

section step
variable {eval : EvalFn} {run : RunFn} {trig : JVal} {dr : List (Label × StepRes)} {s : Step}

theorem gate_of_nonok (h : okVals dr = none) : gate eval trig dr s = .done ⟨.depSkip, .null⟩ := by
  unfold gate; simp [h]

theorem gate_of_inputs_fail {oks}
    (h : okVals dr = some oks) (hi : evalInputs eval s (activation trig s.deps oks) = none) :
    gate eval trig dr s = .done ⟨.permFail, .null⟩ := by
  unfold gate; simp [h, hi]

theorem gate_of_skip {oks inputs}
    (h : okVals dr = some oks) (hi : evalInputs eval s (activation trig s.deps oks) = some inputs)
    (hs : skipDecision eval s (activation trig s.deps oks) = .skip) :
    gate eval trig dr s = .done ⟨.skip, .null⟩ := by
  unfold gate; simp [h, hi, hs]

theorem gate_of_skip_fail {oks inputs}
    (h : okVals dr = some oks) (hi : evalInputs eval s (activation trig s.deps oks) = some inputs)
    (hs : skipDecision eval s (activation trig s.deps oks) = .fail) :
    gate eval trig dr s = .done ⟨.permFail, .null⟩ := by
  unfold gate; simp [h, hi, hs]

theorem gate_of_single {oks inputs}
    (h : okVals dr = some oks) (hi : evalInputs eval s (activation trig s.deps oks) = some inputs)
    (hs : skipDecision eval s (activation trig s.deps oks) = .go) (hfe : s.forEach = none) :
    gate eval trig dr s = .single (activation trig s.deps oks) inputs := by
  unfold gate; simp [h, hi, hs, hfe]

theorem gate_each {act inputs key items} (h : gate eval trig dr s = .each act inputs key items) :
    ∃ oks fe, okVals dr = some oks ∧ act = activation trig s.deps oks ∧
      evalInputs eval s act = some inputs ∧ skipDecision eval s act = .go ∧ s.forEach = some fe ∧
      key = fe.inputKey ∧ eval fe.itemIn (.obj act) = some (.arr items) ∧ items ≠ [] := by
  revert h
  -- of the eight exits of `gate` only the last but one returns `.each`
  fun_cases gate eval trig dr s <;> intro h <;> injection h
  next oks hoks _ _ hin hgo fe hfe _ hne hev e1 e2 e3 e4 =>
    subst e1 e2 e3 e4
    exact ⟨oks, fe, hoks, rfl, hin, hgo, hfe, rfl, hev, hne⟩

/-- the last clause is written as in `C01.inputs_exact`, which receives it unchanged (through `trace_call_spec`) -/
theorem gate_evalAt {idx act inp}
    (h : (gate eval trig dr s).evalAt idx = some (act, inp)) :
    ∃ oks inputs, okVals dr = some oks ∧ act = activation trig s.deps oks ∧
      evalInputs eval s act = some inputs ∧ skipDecision eval s act = .go ∧
      match s.forEach with
      | none => idx = none ∧ inp = inputs
      | some fe => ∃ items i it, eval fe.itemIn (.obj act) = some (.arr items) ∧
          idx = some i ∧ items[i]? = some it ∧ inp = setKey fe.inputKey it inputs := by
  revert h
  -- an evaluation happens at two exits only: `.single` at no position, `.each` at a position that has an item
  fun_cases gate eval trig dr s <;> intro h <;> cases idx <;>
    simp only [Gate.evalAt, reduceCtorEq, Option.some.injEq, Prod.mk.injEq, Option.map_eq_some_iff] at h
  · next oks hoks _ inputs hin hgo hfe =>
    obtain ⟨rfl, rfl⟩ := h
    exact ⟨oks, _, hoks, rfl, hin, hgo, by rw [hfe]; exact ⟨rfl, rfl⟩⟩
  · next oks hoks _ inputs hin hgo fe hfe items hne hev i =>
    obtain ⟨it, hit, rfl, rfl⟩ := h
    exact ⟨oks, _, hoks, rfl, hin, hgo, by rw [hfe]; exact ⟨items, i, it, hev, rfl, hit, rfl⟩⟩

theorem runLogic_eq_target (eval : EvalFn) (run : RunFn) (l idx act inputs) (logic : Logic) :
    runLogic eval run l idx act inputs logic =
      match logicTarget eval act inputs logic with
      | some t => runTarget run l idx t inputs
      | none => (⟨.permFail, .null⟩, []) := by
  -- a plain reference, a switch that selects a target, a switch that does not: `logicTarget` takes the same exits
  fun_cases runLogic eval run l idx act inputs logic <;> simp_all [logicTarget]

theorem orDefault_eq_hit (dflt o : Option Target) (t : Target) :
    orDefault dflt o = .hit t ↔ o = some t ∨ (o = none ∧ dflt = some t) := by
  cases o <;> cases dflt <;> simp [orDefault]

theorem logicTarget_switch {act inputs on cases dflt} {t : Target} :
    logicTarget eval act inputs (.switch on cases dflt) = some t ↔
      select eval on cases dflt act inputs = .hit t := by
  cases h : select eval on cases dflt act inputs <;> simp [logicTarget, h]

theorem runLogic_calls_length (eval : EvalFn) (run : RunFn) (lbl idx act inputs logic) :
    (runLogic eval run lbl idx act inputs logic).2.length ≤ 1 := by
  rw [runLogic_eq_target]
  split <;> simp [runTarget]

theorem mem_runLogic_calls {l idx act inputs logic} {c : Call}
    (hc : c ∈ (runLogic eval run l idx act inputs logic).2) :
    logicTarget eval act inputs logic = some c.target ∧
      c = ⟨l, idx, c.target, inputs, (run c.target inputs).api⟩ := by
  rw [runLogic_eq_target] at hc
  split at hc
  · next t ht => simp only [runTarget, List.mem_singleton] at hc; subst hc; exact ⟨ht, rfl⟩
  · simp at hc

theorem runItems_eq (eval : EvalFn) (run : RunFn) (lbl act inputs key logic) (i : Nat) (items : List JVal) :
    runItems eval run lbl act inputs key logic i items =
      items.mapIdx fun j it => runLogic eval run lbl (some (i + j)) act (setKey key it inputs) logic := by
  induction items generalizing i with
  | nil => rfl
  | cons it rest ih =>
    simp only [runItems, ih, List.mapIdx_cons, Nat.add_zero, List.cons.injEq, true_and]
    congr 1; funext j it; congr 2; omega

theorem runItems_length (eval : EvalFn) (run : RunFn) (lbl act inputs key logic) (i : Nat) (items : List JVal) :
    (runItems eval run lbl act inputs key logic i items).length = items.length := by
  rw [runItems_eq, List.length_mapIdx]

theorem runItems_getElem? (eval : EvalFn) (run : RunFn) (lbl act inputs key logic) (i : Nat)
    (items : List JVal) (j : Nat) :
    (runItems eval run lbl act inputs key logic i items)[j]? =
      (items[j]?).map fun it => runLogic eval run lbl (some (i + j)) act (setKey key it inputs) logic := by
  rw [runItems_eq, List.getElem?_mapIdx]

theorem combineItems_no_err (outs : List StepOut) (h : ∀ o ∈ outs, o.res.isErr = false) :
    combineItems outs = ⟨.ok (.arr (outs.map fun o => encodeItem o.res)), .arr (outs.map (·.rid))⟩ := by
  have hf : outs.filter (fun o => o.res.isErr) = [] :=
    List.filter_eq_nil_iff.2 (fun o ho => by simp [h o ho])
  unfold combineItems
  rw [hf]
  rfl

theorem stepResult_done {o}
    (h : gate eval trig dr s = .done o) : stepResult eval run trig dr s = (o, []) := by
  unfold stepResult; rw [h]

theorem stepResult_single {act inputs} (h : gate eval trig dr s = .single act inputs) :
    stepResult eval run trig dr s = runLogic eval run s.label none act inputs s.logic := by
  unfold stepResult; rw [h]

theorem stepResult_each {act inputs key items} (h : gate eval trig dr s = .each act inputs key items) :
    stepResult eval run trig dr s =
      (combineItems ((runItems eval run s.label act inputs key s.logic 0 items).map (·.1)),
       (runItems eval run s.label act inputs key s.logic 0 items).flatMap (·.2)) := by
  unfold stepResult; rw [h]

theorem mem_stepResult_calls {c : Call} (hc : c ∈ (stepResult eval run trig dr s).2) :
    c.step = s.label ∧ c.api = (run c.target c.inputs).api ∧
      ∃ act, (gate eval trig dr s).evalAt c.idx = some (act, c.inputs) ∧
        logicTarget eval act c.inputs s.logic = some c.target := by
  cases hg : gate eval trig dr s with
  | done o => simp [stepResult_done hg] at hc
  | single act inputs =>
    rw [stepResult_single hg] at hc
    obtain ⟨ht, hc⟩ := mem_runLogic_calls hc
    rw [hc]
    exact ⟨rfl, rfl, act, rfl, ht⟩
  | each act inputs key items =>
    simp only [stepResult_each hg, runItems_eq, List.mem_flatMap, List.mem_mapIdx] at hc
    obtain ⟨_, ⟨j, hj, rfl⟩, hc⟩ := hc
    obtain ⟨ht, hc⟩ := mem_runLogic_calls hc
    rw [hc]
    exact ⟨rfl, rfl, act, by simp [Gate.evalAt, hj], ht⟩

end step

theorem depRes_congr {env env' : List (Label × StepOut)} {deps : List Label}
    (h : ∀ d ∈ deps, lookupL d env = lookupL d env') : depRes env deps = depRes env' deps := by
  unfold depRes
  apply List.map_congr_left
  intro d hd
  rw [h d hd]

theorem Trace.ok_of_okValsOf {t : Trace} {deps : List Label} {oks} (h : t.okValsOf deps = some oks)
    {d : Label} (hd : d ∈ deps) : ∃ v, t.resultOf d = some (.ok v) := by
  obtain ⟨v, hv⟩ := okVals_some_all _ h _ (List.mem_map.2 ⟨d, hd, rfl⟩ : (d, _) ∈ depRes t.results deps)
  unfold Trace.resultOf
  cases hl : lookupL d t.results with
  | none => simp [hl] at hv
  | some o => simp only [hl] at hv; exact ⟨v, by simp [hv]⟩

theorem wfSteps_cons_iff {seen : List Label} {s : Step} {rest : List Step} :
    wfSteps seen (s :: rest) = true ↔
      (∀ d ∈ s.deps, d ∈ seen) ∧ s.label ∉ seen ∧ wfSteps (seen ++ [s.label]) rest = true := by
  simp only [wfSteps, Bool.and_eq_true, List.all_eq_true, Bool.not_eq_true', List.contains_eq_mem,
    decide_eq_true_eq, decide_eq_false_iff_not, and_assoc]

theorem wfSteps_spec {seen : List Label} {steps : List Step} (hs : seen.Nodup) (h : wfSteps seen steps = true) :
    (seen ++ labels steps).Nodup ∧ ∀ s ∈ steps, ∀ d ∈ s.deps, d ∈ seen ++ labels steps := by
  induction steps generalizing seen with
  | nil => exact ⟨by rwa [labels, List.map_nil, List.append_nil], fun _ hs => nomatch hs⟩
  | cons s0 rest ih =>
    obtain ⟨hdeps, hfresh, hrest⟩ := wfSteps_cons_iff.1 h
    -- `seen` with the head's label is again free of duplicates, and the rest was checked against it
    have := ih (List.nodup_append.2 ⟨hs, List.pairwise_singleton .., fun a ha b hb e =>
      hfresh (by rwa [← List.mem_singleton.1 hb, ← e])⟩) hrest
    rw [List.append_assoc] at this
    exact ⟨this.1, List.forall_mem_cons.2 ⟨fun d hd => List.mem_append_left _ (hdeps d hd), this.2⟩⟩

theorem WF_nodup {wf : Workflow} (hwf : wf.WF = true) : (labels wf.steps).Nodup :=
  (wfSteps_spec List.nodup_nil hwf).1

theorem filter_label {steps : List Step} (hnd : (labels steps).Nodup) {s : Step} (hs : s ∈ steps) :
    (steps.filter fun s' => decide (s'.label = s.label)) = [s] := by
  induction steps with
  | nil => simp at hs
  | cons s0 rest ih =>
    simp only [labels, List.map_cons, List.nodup_cons] at hnd
    rcases List.mem_cons.1 hs with rfl | hr
    · rw [List.filter_cons_of_pos (by simp), List.filter_eq_nil_iff.2]
      intro s' h' e
      exact hnd.1 (List.mem_map.2 ⟨s', h', of_decide_eq_true e⟩)
    · rw [List.filter_cons_of_neg, ih hnd.2 hr]
      intro e
      exact hnd.1 (List.mem_map.2 ⟨s, hr, (of_decide_eq_true e).symm⟩)

theorem findStep_eq_find? (l : Label) (steps : List Step) :
    findStep l steps = steps.find? fun s => decide (s.label = l) := by
  -- empty list; the head is labelled `l`; it is not
  fun_induction findStep l steps with
  | case1 => rfl
  | case2 s rest e => simp [e]
  | case3 s rest e ih => simp [e, ih]

theorem findStep_some {l : Label} {steps : List Step} {s : Step} (h : findStep l steps = some s) :
    s ∈ steps ∧ s.label = l := by
  rw [findStep_eq_find?] at h
  exact ⟨List.mem_of_find?_eq_some h,
    of_decide_eq_true (List.find?_some (p := fun s : Step => decide (s.label = l)) h)⟩

theorem findStep_of_mem {steps : List Step} (hnd : (labels steps).Nodup) {s : Step} (hs : s ∈ steps) :
    findStep s.label steps = some s := by
  rw [findStep_eq_find?, ← List.head?_filter, filter_label hnd hs]; rfl

theorem step_unique {steps : List Step} (hnd : (labels steps).Nodup) {s s' : Step}
    (hs : s ∈ steps) (hs' : s' ∈ steps) (h : s.label = s'.label) : s = s' :=
  Option.some.inj ((findStep_of_mem hnd hs).symm.trans (h ▸ findStep_of_mem hnd hs'))

theorem lookupL_map_label {α : Type} (l : Label) (steps : List Step) (f : Step → α) :
    lookupL l (steps.map fun s => (s.label, f s)) = (findStep l steps).map f := by
  fun_induction findStep l steps with
  | case1 => rfl
  | case2 s rest e => simp [lookupL, e]
  | case3 s rest e ih => simp [lookupL, e, ih]

/-- a fixpoint: the right-hand sides read the dependencies' entries of the *final* result list, that is, of the
    left-hand side itself -/
theorem runSteps_eq (eval : EvalFn) (run : RunFn) (trig : JVal) (steps : List Step) (t : Trace)
    (hwf : wfSteps (t.results.map (·.1)) steps = true) :
    (runSteps eval run trig steps t).results = t.results ++ steps.map (fun s =>
        (s.label, (stepResult eval run trig (depRes (runSteps eval run trig steps t).results s.deps) s).1)) ∧
    (runSteps eval run trig steps t).calls = t.calls ++ steps.flatMap (fun s =>
        (stepResult eval run trig (depRes (runSteps eval run trig steps t).results s.deps) s).2) := by
  -- `r` is the head's `stepResult` on `t`; the rest runs from `t` extended by it
  fun_induction runSteps eval run trig steps t with
  | case1 t => simp
  | case2 s0 rest t r ih =>
    obtain ⟨hdeps, -, hrest⟩ := wfSteps_cons_iff.1 hwf
    obtain ⟨hres, hcalls⟩ := ih (by simpa using hrest)
    -- the head's dependencies are all in `t.results`, a prefix of the final list
    have hdr : depRes (runSteps eval run trig rest ⟨t.results ++ [(s0.label, r.1)], t.calls ++ r.2⟩).results s0.deps =
        depRes t.results s0.deps := by
      apply depRes_congr
      intro d hd
      obtain ⟨v, hv⟩ := lookupL_some_of_mem (hdeps d hd)
      rw [hres, hv]
      exact lookupL_append_left (lookupL_append_left hv)
    rw [List.map_cons, List.flatMap_cons, hdr]
    exact ⟨hres.trans (List.append_assoc ..), hcalls.trans (List.append_assoc ..)⟩

theorem filter_step_flatMap {steps : List Step} (f : Step → List Call)
    (hf : ∀ s ∈ steps, ∀ c ∈ f s, c.step = s.label) (l : Label) :
    (steps.flatMap f).filter (fun c => decide (c.step = l)) =
      (steps.filter fun s => decide (s.label = l)).flatMap f := by
  induction steps with
  | nil => rfl
  | cons s0 rest ih =>
    rw [List.flatMap_cons, List.filter_append, ih fun s h => hf s (List.mem_cons_of_mem _ h), List.filter_cons]
    have h0 := hf s0 List.mem_cons_self
    split
    · next e =>
      rw [List.flatMap_cons, List.filter_eq_self.2 fun c hc => by rw [h0 c hc]; exact e]
    · next e =>
      rw [List.filter_eq_nil_iff.2 fun c hc => by rw [h0 c hc]; exact e, List.nil_append]

section trace
variable (eval : EvalFn) (run : RunFn) (trig : JVal) (wf : Workflow)

theorem trace_results (hwf : wf.WF = true) :
    (trace eval run trig wf).results = wf.steps.map fun s =>
      (s.label, (stepResult eval run trig (depRes (trace eval run trig wf).results s.deps) s).1) :=
  (runSteps_eq eval run trig wf.steps {} hwf).1

theorem trace_labels (hwf : wf.WF = true) : (trace eval run trig wf).results.map (·.1) = labels wf.steps := by
  rw [trace_results eval run trig wf hwf, List.map_map]; rfl

theorem lookupL_trace (hwf : wf.WF = true) {s : Step} (hs : s ∈ wf.steps) :
    lookupL s.label (trace eval run trig wf).results =
      some (stepResult eval run trig (depRes (trace eval run trig wf).results s.deps) s).1 := by
  -- `trace_results` has the trace on both sides: rewrite with it from right to left, in a fact about the mapped list
  have h := lookupL_map_label s.label wf.steps
    (fun s => (stepResult eval run trig (depRes (trace eval run trig wf).results s.deps) s).1)
  rwa [← trace_results eval run trig wf hwf, findStep_of_mem (WF_nodup hwf) hs] at h

theorem trace_resultOf (hwf : wf.WF = true) {s : Step} (hs : s ∈ wf.steps) :
    (trace eval run trig wf).resultOf s.label =
      some (stepResult eval run trig (depRes (trace eval run trig wf).results s.deps) s).1.res := by
  rw [Trace.resultOf, lookupL_trace eval run trig wf hwf hs]; rfl

theorem trace_callsOf (hwf : wf.WF = true) {s : Step} (hs : s ∈ wf.steps) :
    (trace eval run trig wf).callsOf s.label =
      (stepResult eval run trig (depRes (trace eval run trig wf).results s.deps) s).2 := by
  rw [Trace.callsOf, (show (trace eval run trig wf).calls = _ from (runSteps_eq eval run trig wf.steps {} hwf).2),
    List.nil_append, filter_step_flatMap _ (fun s' _ c hc => (mem_stepResult_calls hc).1),
    filter_label (WF_nodup hwf) hs, List.flatMap_cons, List.flatMap_nil, List.append_nil]
  rfl

/-- everything C01 states about one recorded call, in one statement -/
theorem trace_call_spec (hwf : wf.WF = true) {s : Step} (hs : s ∈ wf.steps) {c : Call}
    (hc : c ∈ (trace eval run trig wf).calls) (hcs : c.step = s.label) :
    ∃ oks inputs, (trace eval run trig wf).okValsOf s.deps = some oks ∧
      evalInputs eval s (activation trig s.deps oks) = some inputs ∧
      skipDecision eval s (activation trig s.deps oks) = .go ∧
      (match s.forEach with
        | none => c.idx = none ∧ c.inputs = inputs
        | some fe => ∃ items i it,
            eval fe.itemIn (.obj (activation trig s.deps oks)) = some (.arr items) ∧
            c.idx = some i ∧ items[i]? = some it ∧ c.inputs = setKey fe.inputKey it inputs) ∧
      logicTarget eval (activation trig s.deps oks) c.inputs s.logic = some c.target ∧
      c.api = (run c.target c.inputs).api := by
  have hmem : c ∈ (trace eval run trig wf).callsOf s.label := List.mem_filter.2 ⟨hc, decide_eq_true hcs⟩
  rw [trace_callsOf eval run trig wf hwf hs] at hmem
  obtain ⟨-, hapi, act, hat, ht⟩ := mem_stepResult_calls hmem
  obtain ⟨oks, inputs, hok, rfl, hin, hgo, hfe⟩ := gate_evalAt hat
  exact ⟨oks, inputs, hok, hin, hgo, hfe, ht, hapi⟩

theorem trace_of_gate_done (hwf : wf.WF = true) {s : Step} (hs : s ∈ wf.steps) {o : StepOut}
    (hg : gate eval trig (depRes (trace eval run trig wf).results s.deps) s = .done o) :
    (trace eval run trig wf).resultOf s.label = some o.res ∧ (trace eval run trig wf).callsOf s.label = [] := by
  rw [trace_resultOf eval run trig wf hwf hs, trace_callsOf eval run trig wf hwf hs, stepResult_done hg]
  exact ⟨rfl, rfl⟩

end trace

theorem runAt_fn (eval : EvalFn) (base : RunFn) (defs : Env) (n : Nat) (id : String) (inp : JVal) :
    runAt eval base defs n (.fn id) inp = base (.fn id) inp := by
  cases n <;> rfl

theorem runAt_unknown {eval : EvalFn} {base : RunFn} {defs : Env} {n : Nat} {name : String} {inp : JVal}
    (h : lookupL name defs = none) : runAt eval base defs n (.wf name) inp = base (.wf name) inp := by
  cases n with
  | zero => rfl
  | succ n => simp [runAt, h]

theorem subOut_stepOut (r : WfResult) (api : List String) :
    (⟨(subOut r api).res, (subOut r api).rid⟩ : StepOut) = subStepOut r := by
  unfold subOut subStepOut
  cases r.overall <;> rfl

end Koreo.Workflow
