/-
  Helper lemmas for C15 (`Koreo/Props/C15.lean`): the association list behaves like a map; the ways
  an offer and a delete can go, as equations; what one operation can do to the state (`step_effect`),
  from which the frame lemma and the invariant about serials follow.
-/
import Koreo.Cache

namespace Koreo.Cache
variable {β : Type}

@[simp] theorem find_set (m : List (Key × β)) (k k' : Key) (v : β) :
    find? (set m k v) k' = if k = k' then some v else find? m k' := by
  fun_induction set m k v with
  | case1 => rfl
  | case2 _ _ k _ => by_cases h : k = k' <;> simp only [find?, h, if_true, if_false]
  | case3 k0 _ _ k _ hne ih =>
    -- the head stays and answers for its own key, which is not `k`
    rw [find?, find?, ih]
    by_cases h : k0 = k'
    · rw [if_pos h, if_pos h, if_neg fun e => hne (h.trans e.symm)]
    · rw [if_neg h, if_neg h]

@[simp] theorem find_del (m : List (Key × β)) (k k' : Key) :
    find? (del m k) k' = if k = k' then none else find? m k' := by
  fun_induction del m k with
  | case1 => simp only [find?, ite_self]
  | case2 _ _ k ih => rw [ih, find?]; by_cases h : k = k' <;> simp only [h, if_true, if_false]
  | case3 k0 _ _ k hne ih =>
    rw [find?, find?, ih]
    by_cases h : k0 = k'
    · rw [if_pos h, if_pos h, if_neg fun e => hne (h.trans e.symm)]
    · rw [if_neg h, if_neg h]

theorem validMeta_iff (k : Key) (version : Option String) :
    validMeta k version = true ↔ k.2 ≠ "" ∧ ∃ v, version = some v ∧ v ≠ "" := by
  cases version <;> simp [validMeta, truthy]

variable {σ ρ : Type} (prep : Nat → String → σ → PrepResult ρ)

theorem step_offer_bad (s : State σ ρ) (k : Key) (version : Option String) (spec : σ) (sys : Option Nat)
    (c : Bool) (h : validMeta k version = false) :
    step prep s (.offer k version spec sys c) = (s, .typeError) := by
  simp [step, h]

theorem step_offer_hit (s : State σ ρ) (k : Key) (version : Option String) (spec : σ) (sys : Option Nat)
    (c : Bool) (e : Entry σ ρ) (h : validMeta k version = true) (hc : find? s.cache k = some e)
    (hv : e.version = version.getD "") :
    step prep s (.offer k version spec sys c) = (s, .returned e.resource e.serial false) := by
  simp [step, h, hc, hv]

theorem step_offer_miss (s : State σ ρ) (k : Key) (version : Option String) (spec : σ) (sys : Option Nat)
    (c : Bool) (h : validMeta k version = true)
    (hd : ∀ e, find? s.cache k = some e → e.version ≠ version.getD "") :
    step prep s (.offer k version spec sys c) =
      (⟨set s.cache k ⟨spec, prep k.1 k.2 spec, s.calls, version.getD "", sys⟩, s.calls + 1⟩,
       if c then .raisedCycle (prep k.1 k.2 spec) s.calls else .returned (prep k.1 k.2 spec) s.calls true) := by
  cases hf : find? s.cache k with
  | none => simp [step, h, hf]
  | some e => simp [step, h, hf, hd e hf]

theorem step_offer_cases (s : State σ ρ) (k : Key) (version : Option String) (spec : σ) (sys : Option Nat)
    (c : Bool) :
    (validMeta k version = false ∧ step prep s (.offer k version spec sys c) = (s, .typeError)) ∨
    (∃ e, validMeta k version = true ∧ find? s.cache k = some e ∧ e.version = version.getD "" ∧
      step prep s (.offer k version spec sys c) = (s, .returned e.resource e.serial false)) ∨
    (validMeta k version = true ∧ (∀ e, find? s.cache k = some e → e.version ≠ version.getD "") ∧
      step prep s (.offer k version spec sys c) =
        (⟨set s.cache k ⟨spec, prep k.1 k.2 spec, s.calls, version.getD "", sys⟩, s.calls + 1⟩,
         if c then .raisedCycle (prep k.1 k.2 spec) s.calls else .returned (prep k.1 k.2 spec) s.calls true)) := by
  by_cases h : validMeta k version = true
  · by_cases hit : ∃ e, find? s.cache k = some e ∧ e.version = version.getD ""
    · obtain ⟨e, he, hv⟩ := hit
      exact .inr (.inl ⟨e, h, he, hv, step_offer_hit prep s k version spec sys c e h he hv⟩)
    · have hd : ∀ e, find? s.cache k = some e → e.version ≠ version.getD "" :=
        fun e he hv => hit ⟨e, he, hv⟩
      exact .inr (.inr ⟨h, hd, step_offer_miss prep s k version spec sys c h hd⟩)
  · have h' : validMeta k version = false := Bool.eq_false_iff.2 h
    exact .inl ⟨h', step_offer_bad prep s k version spec sys c h'⟩

/-- "`calls` grew" is the test for "this offer prepared": the version short-circuit leaves the count alone -/
theorem offer_entry (s : State σ ρ) (k : Key) (version : Option String) (spec : σ) (sys : Option Nat)
    (c : Bool) (hm : validMeta k version = true) :
    ∃ e, find? (step prep s (.offer k version spec sys c)).1.cache k = some e ∧
      e.version = version.getD "" ∧
      (step prep s (.offer k version spec sys c)).2.value? = some (e.resource, e.serial) ∧
      ((step prep s (.offer k version spec sys c)).1.calls = s.calls + 1 →
        e = ⟨spec, prep k.1 k.2 spec, s.calls, version.getD "", sys⟩) := by
  rcases step_offer_cases prep s k version spec sys c with ⟨hb, _⟩ | ⟨e, _, he, hver, h⟩ | ⟨_, _, h⟩
  · rw [hm] at hb; cases hb
  · rw [h]; exact ⟨e, he, hver, rfl, fun hc => absurd hc (Nat.ne_of_lt (Nat.lt_succ_self _))⟩
  · rw [h]; exact ⟨_, by simp, rfl, by cases c <;> rfl, fun _ => rfl⟩

/-- by definition the guard of `step` on a delete (`if version and version != cached.resource_version: return`),
    so `step_delete_keep` / `_drop` close by `if_pos` / `if_neg` -/
def spares (version : Option String) (e : Entry σ ρ) : Bool :=
  truthy version && decide (version.getD "" ≠ e.version)

theorem step_delete_keep (s : State σ ρ) (k : Key) (version : Option String)
    (h : ∀ e, find? s.cache k = some e → spares version e = true) :
    step prep s (.delete k version) = (s, .unit) := by
  cases hf : find? s.cache k with
  | none => simp [step, hf]
  | some e => simp only [step, hf]; exact if_pos (h e hf)

theorem step_delete_drop (s : State σ ρ) (k : Key) (version : Option String) (e : Entry σ ρ)
    (hf : find? s.cache k = some e) (h : spares version e = false) :
    step prep s (.delete k version) = ({ s with cache := del s.cache k }, .unit) := by
  simp only [step, hf]; exact if_neg (Bool.eq_false_iff.1 h)

theorem step_delete_stale (s : State σ ρ) (k : Key) (w : String) (e : Entry σ ρ)
    (hc : find? s.cache k = some e) (hw : w ≠ "") (hstale : w ≠ e.version) :
    step prep s (.delete k (some w)) = (s, .unit) :=
  step_delete_keep prep s k (some w) fun e' he' => by
    cases hc.symm.trans he'; simp [spares, truthy, hw, hstale]

theorem step_deleteMeta (s : State σ ρ) (k : Key) (version : Option String) (h : validMeta k version = true) :
    step prep s (.deleteMeta k version) = step prep s (.delete k none) := by
  cases hf : find? s.cache k with
  | none => simp [step, h, hf]
  | some e => simp [step, h, hf, truthy]

theorem step_deleteMeta_bad (s : State σ ρ) (k : Key) (version : Option String) (h : validMeta k version = false) :
    step prep s (.deleteMeta k version) = (s, .typeError) := by
  simp [step, h]

/-- the key an operation may WRITE: `none` for the two lookups, which carry a key and only read it -/
def Op.key : Op σ → Option Key
  | .offer k .. | .delete k _ | .deleteMeta k _ => some k
  | .lookup _ | .systemData _ | .elapse _ => none

theorem step_effect (s : State σ ρ) (op : Op σ) :
    (step prep s op).1 = s ∨ ∃ k, op.key = some k ∧
      ((∃ e : Entry σ ρ, e.serial = s.calls ∧ (step prep s op).1 = ⟨set s.cache k e, s.calls + 1⟩) ∨
       (step prep s op).1 = { s with cache := del s.cache k }) := by
  fun_cases step prep s op
  -- an offer of a version that is not cached stores; a delete that does not spare the entry removes
  case case2 | case3 => exact .inr ⟨_, rfl, .inl ⟨_, rfl, rfl⟩⟩
  case case7 | case9 => exact .inr ⟨_, rfl, .inr rfl⟩
  all_goals exact .inl rfl

theorem find_step_of_ne (s : State σ ρ) (op : Op σ) (k' : Key) (h : op.key ≠ some k') :
    find? (step prep s op).1.cache k' = find? s.cache k' := by
  rcases step_effect prep s op with e | ⟨k, hk, ⟨_, _, e⟩ | e⟩
  · rw [e]
  · rw [e, find_set, if_neg (fun hkk : k = k' => h (hkk ▸ hk))]
  · rw [e, find_del, if_neg (fun hkk : k = k' => h (hkk ▸ hk))]

theorem run_induction {P : State σ ρ → Prop} (ops : List (Op σ))
    (hstep : ∀ s, ∀ op ∈ ops, P s → P (step prep s op).1) (s : State σ ρ) (h : P s) : P (run prep s ops) := by
  induction ops generalizing s with
  | nil => exact h
  | cons op ops ih =>
    exact ih (fun s o ho => hstep s o (List.mem_cons_of_mem _ ho)) _ (hstep s op List.mem_cons_self h)

theorem quiet_step (s : State σ ρ) (k : Key) (v : String) (e : Entry σ ρ) (op : Op σ)
    (hq : Quiet k v op) (hc : find? s.cache k = some e) (hver : e.version = v) :
    find? (step prep s op).1.cache k = some e := by
  by_cases hk : op.key = some k
  · -- an operation on `k` itself: quiet means that it changes nothing at all
    suffices h : (step prep s op).1 = s by rw [h]; exact hc
    cases op with
    | offer k' version spec sys c =>
      cases Option.some.inj hk
      rcases step_offer_cases prep s k version spec sys c with ⟨_, h⟩ | ⟨_, _, _, _, h⟩ | ⟨hm, hd, h⟩
      · rw [h]
      · rw [h]
      · rcases hq with hne | heq | hbad
        · exact absurd rfl hne
        · exact absurd (by rw [heq]; exact hver) (hd e hc)
        · rw [hm] at hbad; cases hbad
    | delete k' version =>
      cases Option.some.inj hk
      rcases hq with hne | ⟨w, rfl, hw1, hw2⟩
      · exact absurd rfl hne
      · rw [step_delete_stale prep s k w e hc hw1 (hver ▸ hw2)]
    | deleteMeta k' version =>
      cases Option.some.inj hk
      rcases hq with hne | hbad
      · exact absurd rfl hne
      · rw [step_deleteMeta_bad prep s k version hbad]
    | _ => rfl
  · rw [find_step_of_ne prep s op k hk]; exact hc

theorem quiet_run (s : State σ ρ) (k : Key) (v : String) (e : Entry σ ρ) (ops : List (Op σ))
    (hq : ∀ op ∈ ops, Quiet k v op) (hc : find? s.cache k = some e) (hver : e.version = v) :
    find? (run prep s ops).cache k = some e :=
  run_induction prep (P := fun s => find? s.cache k = some e) ops
    (fun s op ho h => quiet_step prep s k v e op (hq op ho) h hver) s hc

def SerialsOk (s : State σ ρ) : Prop :=
  (∀ k e, find? s.cache k = some e → e.serial < s.calls) ∧
  (∀ k k' e e', find? s.cache k = some e → find? s.cache k' = some e' → e.serial = e'.serial → k = k')

theorem serialsOk_step {s : State σ ρ} (h : SerialsOk s) (op : Op σ) : SerialsOk (step prep s op).1 := by
  obtain ⟨h1, h2⟩ := h
  rcases step_effect prep s op with e | ⟨k, -, ⟨ne, hne, e⟩ | e⟩ <;> rw [e]
  · exact ⟨h1, h2⟩
  · -- the new entry has the serial `s.calls`, above every cached one
    have old : ∀ k0 e0, k ≠ k0 → find? (set s.cache k ne) k0 = some e0 → find? s.cache k0 = some e0 :=
      fun k0 e0 hk h => by rwa [find_set, if_neg hk] at h
    have new : ∀ e0, find? (set s.cache k ne) k = some e0 → e0.serial = s.calls :=
      fun e0 h => by rw [find_set, if_pos rfl] at h; cases h; exact hne
    refine ⟨fun k0 e0 he => ?_, fun k0 k0' e0 e0' he he' hs => ?_⟩
    · by_cases hk : k = k0
      · subst hk; exact Nat.lt_succ_of_le (Nat.le_of_eq (new e0 he))
      · exact Nat.lt_succ_of_lt (h1 k0 e0 (old k0 e0 hk he))
    · by_cases hk : k = k0 <;> by_cases hk' : k = k0'
      · exact hk.symm.trans hk'
      · subst hk; have := h1 k0' e0' (old _ _ hk' he'); have := new e0 he; omega
      · subst hk'; have := h1 k0 e0 (old _ _ hk he); have := new e0' he'; omega
      · exact h2 k0 k0' e0 e0' (old _ _ hk he) (old _ _ hk' he') hs
  · have old : ∀ k0 e0, find? (del s.cache k) k0 = some e0 → find? s.cache k0 = some e0 := by
      intro k0 e0 h; rw [find_del] at h; split at h
      · cases h
      · exact h
    exact ⟨fun k0 e0 he => h1 k0 e0 (old k0 e0 he),
      fun k0 k0' e0 e0' he he' hs => h2 k0 k0' e0 e0' (old _ _ he) (old _ _ he') hs⟩

theorem abs_set (c : List (Key × Entry σ ρ)) (k : Key) (e : Entry σ ρ) (n : Nat) :
    abs ⟨set c k e, n⟩ = ⟨upd (fun k' => find? c k') k (some e), n⟩ := by
  simp only [abs, find_set]; rfl

theorem abs_del (c : List (Key × Entry σ ρ)) (k : Key) (n : Nat) :
    abs ⟨del c k, n⟩ = ⟨upd (fun k' => find? c k') k none, n⟩ := by
  simp only [abs, find_del]; rfl

end Koreo.Cache
