/-
  Lemmas for C09 over `Koreo/WorkflowFaults.lean`.

  * An error among the parts makes the combined outcome an error: the class of `combine` is the most severe class
    present (`Lemmas/Result.lean`), read through `combineItems` and `overallOf`.
  * The task group: a consistent group is a fixpoint, every step's entry is `evalStep` on the FINAL entries of its
    dependencies (`runStepsF_spec`); with every task done it is C01's sequential semantics.
  * One ResourceFunction evaluation under a fault is either quiet (only the GET, nothing changes) or one mutation
    that is not answered Ok and took effect or did not (`rfPass_cases`); then what the fault-free evaluation does to
    the resource, and when that is stable.
  * Recursion by fuel over a DAG (`fuelRec_eq`), for the pass function of `DagSys` here and for the limit and the pass
    function of `GSys` in `Lemmas/WorkflowRecovery.lean`, where the recovery theorem of both is proved (the flat limit
    `finS` / `finR` is read there as the nested one, `finF_toG`).

  Definitions introduced here: `Believable` (the one fault that is answered Ok) and `Hyps` (the assumptions of the flat
  recovery theorem), which statements of `Props/C09.lean` mention; `FAns.ofOut` (the answer of a step's task that
  completes without evaluating a Logic), for the equations of `evalStep` only.
-/
import Koreo.WorkflowFaults
import Koreo.Lemmas.Workflow
import Koreo.Lemmas.Result

namespace Koreo.WorkflowFaults
open Koreo Koreo.Workflow Koreo.Result

theorem lookupL_map_snd {α β : Type} (f : α → β) (l : Label) (xs : List (Label × α)) :
    lookupL l (xs.map fun p => (p.1, f p.2)) = (lookupL l xs).map f := by
  fun_induction lookupL l xs with
  | case1 => rfl
  | case2 v rest => simp [lookupL]                        -- the key is at the head
  | case3 k v rest h ih => simpa [lookupL, h] using ih    -- it is not

theorem gate_each_ne_nil {eval : EvalFn} {trig : JVal} {dr : List (Label × StepRes)} {s : Step} {act inputs key items}
    (hg : gate eval trig dr s = .each act inputs key items) : items ≠ [] := by
  obtain ⟨-, -, -, -, -, -, -, -, -, hne⟩ := gate_each hg
  exact hne

theorem mem_listed_of_lookup {wf : Workflow} {res : List (Label × StepOut)} {s : Step} {o : StepOut}
    (hs : s ∈ wf.steps) (h : lookupL s.label res = some o) : o ∈ (listed wf res).map (·.2) := by
  apply List.mem_map.2
  refine ⟨(s, o), ?_, rfl⟩
  unfold listed
  apply List.mem_filterMap.2
  exact ⟨s, hs, by rw [h]; rfl⟩

theorem listed_mem {wf : Workflow} {res : List (Label × StepOut)} {p : Step × StepOut}
    (h : p ∈ listed wf res) : p.1 ∈ wf.steps ∧ lookupL p.1.label res = some p.2 := by
  unfold listed at h
  obtain ⟨s, hs, he⟩ := List.mem_filterMap.1 h
  cases hl : lookupL s.label res with
  | none => simp [hl] at he
  | some o => rw [hl] at he; cases he; exact ⟨hs, hl⟩

theorem toOutcome_rank_of_isErr {r : StepRes} (h : r.isErr = true) : 3 ≤ r.toOutcome.cls.rank := by
  cases r <;> simp_all [StepRes.isErr, StepRes.toOutcome, Outcome.cls, Cls.rank]

theorem toOutcome_rank_le_of_not_isErr {r : StepRes} (h : r.isErr = false) : r.toOutcome.cls.rank ≤ 2 := by
  cases r <;> simp_all [StepRes.isErr, StepRes.toOutcome, Outcome.cls, Cls.rank]

theorem ofCombined_isErr {c : Combined JVal} : (StepRes.ofCombined c).isErr = true ↔ 3 ≤ c.cls.rank := by
  cases c with
  | okList vs l => simp [StepRes.ofCombined, StepRes.isErr, Combined.cls, Cls.rank]
  | nonOk o => cases o <;> simp [StepRes.ofCombined, StepRes.ofOutcome, StepRes.isErr, Combined.cls, Outcome.cls, Cls.rank]

theorem ofCombined_isOk {c : Combined JVal} (h : (StepRes.ofCombined c).isOk = true) : c.cls.rank = 2 := by
  cases c with
  | okList vs l => simp [Combined.cls, Cls.rank]
  | nonOk o => cases o <;> simp_all [StepRes.ofCombined, StepRes.ofOutcome, StepRes.isOk, Combined.cls, Outcome.cls, Cls.rank]

theorem combineItems_err {outs : List StepOut} (h : ∃ o ∈ outs, o.res.isErr = true) :
    (combineItems outs).res.isErr = true := by
  obtain ⟨o, ho, he⟩ := h
  have hmem : o.res.toOutcome ∈ (outs.filter fun o => o.res.isErr).map fun o => o.res.toOutcome :=
    List.mem_map.2 ⟨o, List.mem_filter.2 ⟨ho, he⟩, rfl⟩
  have hmax := combine_rank_ge _ hmem
  have h3 := toOutcome_rank_of_isErr he
  have hc : (StepRes.ofCombined (Result.combine
      ((outs.filter fun o => o.res.isErr).map fun o => o.res.toOutcome))).isErr = true :=
    ofCombined_isErr.2 (by omega)
  unfold combineItems
  simp only [hc, if_true]

theorem toUnwrapped_lift_cls (o : StepOut) : (toUnwrapped o).lift.cls = o.res.toOutcome.cls := by
  unfold toUnwrapped
  cases o.res <;> rfl

theorem overallOf_err {outs : List StepOut} (h : ∃ o ∈ outs, o.res.isErr = true) :
    (overallOf outs).isErr = true := by
  obtain ⟨o, ho, he⟩ := h
  have hmax := unwrappedCombine_rank_ge (outs.map toUnwrapped) (List.mem_map.2 ⟨o, ho, rfl⟩)
  rw [toUnwrapped_lift_cls] at hmax
  have h3 := toOutcome_rank_of_isErr he
  unfold overallOf
  apply ofCombined_isErr.2
  omega

theorem isErr_cases {r : StepRes} (h : r.isErr = true) : (∃ d, r = .retry d) ∨ r = .permFail := by
  cases r <;> simp_all [StepRes.isErr]

theorem overallOf_ok {outs : List StepOut} (h : (overallOf outs).isOk = true) :
    ∀ o ∈ outs, o.res.isErr = false := by
  intro o ho
  cases he : o.res.isErr with
  | false => rfl
  | true =>
    rcases isErr_cases (overallOf_err ⟨o, ho, he⟩) with ⟨d, e⟩ | e <;> rw [e] at h <;> cases h

theorem reason_ready_isOk {r : StepRes} (h : reason r = "Ready") : r.isOk = true := by
  cases r <;> simp_all [StepRes.isOk, reason]

theorem reason_ne_ready {r : StepRes} (h : r.isOk = false) : reason r ≠ "Ready" := fun e => by
  rw [reason_ready_isOk e] at h; cases h

theorem tagOK_hung {cause : Bool} {t : Tag} (h : tagOK cause .hung t = true) : t = .cancelled := by
  cases t with
  | cancelled => rfl
  | done => cases h
  | raised => cases h

theorem tagOK_raised {cause : Bool} {t : Tag} (h : tagOK cause .raised t = true) : t ≠ .done := by
  rintro rfl
  cases h

theorem taskOut_err_of_faulty {cause : Bool} {a : FAns} {t : Tag} (hf : a.faulty = true)
    (hok : tagOK cause a t = true) : (taskOut a t).res.isErr = true := by
  cases t with
  | done =>
    cases a with
    | ans o => exact hf
    | raised => cases hok
    | hung => cases hok
  | raised => rfl
  | cancelled => rfl

theorem zipOut_mem_of_faulty {cause : Bool} {as : List FAns} {ts : List Tag} (hok : zipOK cause as ts = true)
    {a : FAns} (ha : a ∈ as) (hf : a.faulty = true) : ∃ o ∈ zipOut as ts, o.res.isErr = true := by
  fun_induction zipOK cause as ts with
  | case1 => cases ha
  | case2 a0 as t ts ih =>   -- an answer and a tag: `zipOK` checks the pair, `zipOut` stores its outcome
    obtain ⟨h0, hrest⟩ := Bool.and_eq_true_iff.1 hok
    rcases List.mem_cons.1 ha with rfl | ha
    · exact ⟨taskOut a t, List.mem_cons_self, taskOut_err_of_faulty hf h0⟩
    · obtain ⟨o, ho, he⟩ := ih hrest ha
      exact ⟨o, List.mem_cons_of_mem _ ho, he⟩
  | case3 => cases hok       -- lengths differ

theorem taskOut_not_done {cause : Bool} {a : FAns} {t : Tag} (hok : tagOK cause a t = true) (ht : t ≠ .done) :
    (t = .cancelled ∧ cause = true ∧ taskOut a t = ⟨.retry timeoutDelay, .null⟩) ∨
    (t = .raised ∧ taskOut a t = ⟨.retry errorDelay, .null⟩) := by
  cases t with
  | done => exact absurd rfl ht
  | cancelled => exact Or.inl ⟨rfl, hok, rfl⟩
  | raised => exact Or.inr ⟨rfl, rfl⟩

section step
variable {eval : EvalFn} {frun : FRun} {trig : JVal} {cause : Bool} {dd : Option (List (Label × StepRes))}
  {s : Step} {tg : StepTags} {dr : List (Label × StepRes)}

/-! `evalStep` by exit.  A step that awaits a failed dependency, or a forEach step without iteration tasks, can only
    have been cancelled; at every other exit the step's task is a task with ONE answer `a` — an outcome the gate
    decided or the iterations combine to (as an answer: `FAns.ofOut`), or the Logic's answer — so that its consistency is `tagOK cause a`
    and what is stored for it is `taskOut a`, and the facts below are facts about those two tables. -/

def FAns.ofOut (o : StepOut) : FAns := .ans ⟨o.res, o.rid, []⟩

theorem evalStep_none : evalStep eval frun trig cause none s tg =
    ⟨decide (tg.tag = .cancelled) && cause && tg.items.isEmpty, classify .cancelled ⟨.depSkip, .null⟩, false⟩ := rfl

theorem evalStep_done {o : StepOut} (hg : gate eval trig dr s = .done o) :
    evalStep eval frun trig cause (some dr) s tg =
      ⟨tagOK cause (.ofOut o) tg.tag && tg.items.isEmpty, taskOut (.ofOut o) tg.tag, false⟩ := by
  simp only [evalStep, hg, plainStep]
  cases tg.tag <;> rfl

theorem evalStep_single {act inputs} (hg : gate eval trig dr s = .single act inputs) :
    evalStep eval frun trig cause (some dr) s tg =
      ⟨tagOK cause (evalLogicF eval frun s.label none act inputs s.logic).1 tg.tag && tg.items.isEmpty,
        taskOut (evalLogicF eval frun s.label none act inputs s.logic).1 tg.tag,
        (evalLogicF eval frun s.label none act inputs s.logic).2⟩ := by
  simp only [evalStep, hg]

theorem evalStep_each_nil {act inputs key items} (hg : gate eval trig dr s = .each act inputs key items)
    (h : tg.items = []) :
    evalStep eval frun trig cause (some dr) s tg =
      ⟨decide (tg.tag = .cancelled) && cause, classify .cancelled ⟨.depSkip, .null⟩, false⟩ := by
  simp only [evalStep, hg, h]

theorem evalStep_each {act inputs key items} (hg : gate eval trig dr s = .each act inputs key items)
    (hne : tg.items ≠ []) :
    evalStep eval frun trig cause (some dr) s tg =
      let as := itemAnswers eval frun s.label act inputs key s.logic 0 items
      let a := FAns.ofOut (combineItems (zipOut as tg.items))
      ⟨tagOK cause a tg.tag && zipOK (cause || tg.items.any fun t => decide (t = .raised)) as tg.items,
        taskOut a tg.tag, true⟩ := by
  obtain ⟨t, its⟩ := tg
  cases its with
  | nil => exact absurd rfl hne
  | cons t0 ts => simp only [evalStep, hg]; cases t <;> rfl

theorem evalStep_affected_err
    (haff : Affected eval frun trig dd s)
    (hok : (evalStep eval frun trig cause dd s tg).ok = true) :
    (evalStep eval frun trig cause dd s tg).out.res.isErr = true := by
  obtain ⟨dr, rfl, h⟩ := haff
  rcases h with ⟨act, inputs, hg, hf⟩ | ⟨act, inputs, key, items, hg, a, ha, hf⟩
  · rw [evalStep_single hg] at hok ⊢
    exact taskOut_err_of_faulty hf (Bool.and_eq_true_iff.1 hok).1
  · by_cases hne : tg.items = []
    · rw [evalStep_each_nil hg hne]; rfl
    · rw [evalStep_each hg hne] at hok ⊢
      obtain ⟨h1, h2⟩ := Bool.and_eq_true_iff.1 hok
      exact taskOut_err_of_faulty (combineItems_err (zipOut_mem_of_faulty h2 ha hf)) h1

theorem evalStep_gated
    (h : ∀ dr, dd = some dr → okVals dr = none) :
    (evalStep eval frun trig cause dd s tg).mayRun = false ∧
    ((evalStep eval frun trig cause dd s tg).ok = true →
      (tg.tag = .cancelled ∧ (evalStep eval frun trig cause dd s tg).out = ⟨.retry timeoutDelay, .null⟩) ∨
      (tg.tag = .done ∧ (evalStep eval frun trig cause dd s tg).out = ⟨.depSkip, .null⟩)) := by
  cases dd with
  | none =>
    refine ⟨rfl, fun hok => Or.inl ?_⟩
    simp only [evalStep_none, Bool.and_eq_true, decide_eq_true_eq] at hok
    exact ⟨hok.1.1, rfl⟩
  | some dr =>
    rw [evalStep_done (gate_of_nonok (h dr rfl))]
    refine ⟨rfl, fun hok => ?_⟩
    cases htag : tg.tag with
    | done => exact Or.inr ⟨rfl, rfl⟩
    | cancelled => exact Or.inl ⟨rfl, rfl⟩
    | raised => rw [htag] at hok; cases hok

theorem evalStep_not_done
    (hok : (evalStep eval frun trig cause dd s tg).ok = true) (ht : tg.tag ≠ .done) :
    (tg.tag = .cancelled ∧ cause = true ∧
      (evalStep eval frun trig cause dd s tg).out = ⟨.retry timeoutDelay, .null⟩) ∨
    (tg.tag = .raised ∧ (evalStep eval frun trig cause dd s tg).out = ⟨.retry errorDelay, .null⟩) := by
  cases dd with
  | none =>
    simp only [evalStep_none, Bool.and_eq_true, decide_eq_true_eq] at hok
    exact Or.inl ⟨hok.1.1, hok.1.2, rfl⟩
  | some dr =>
    cases hg : gate eval trig dr s with
    | done o => rw [evalStep_done hg] at hok ⊢; exact taskOut_not_done (Bool.and_eq_true_iff.1 hok).1 ht
    | single act inputs => rw [evalStep_single hg] at hok ⊢; exact taskOut_not_done (Bool.and_eq_true_iff.1 hok).1 ht
    | each act inputs key items =>
      by_cases hne : tg.items = []
      · rw [evalStep_each_nil hg hne] at hok ⊢
        simp only [Bool.and_eq_true, decide_eq_true_eq] at hok
        exact Or.inl ⟨hok.1, hok.2, rfl⟩
      · rw [evalStep_each hg hne] at hok ⊢; exact taskOut_not_done (Bool.and_eq_true_iff.1 hok).1 ht

end step

theorem depsDone_congr {pre pre' : List (Label × Entry)} {deps : List Label}
    (h : ∀ d ∈ deps, lookupL d pre = lookupL d pre') : depsDone pre deps = depsDone pre' deps := by
  induction deps with
  | nil => rfl
  | cons d rest ih =>
    simp only [depsDone]
    rw [h d List.mem_cons_self, ih (fun d' hd' => h d' (List.mem_cons_of_mem _ hd'))]

theorem depsDone_some_mem {pre : List (Label × Entry)} {deps : List Label} {dr}
    (h : depsDone pre deps = some dr) {d : Label} (hd : d ∈ deps) :
    ∃ o, lookupL d pre = some (.done, o) ∧ (d, o.res) ∈ dr := by
  fun_induction depsDone pre deps generalizing dr with
  | case1 => cases hd
  | case2 d0 rest o more h2 h1 ih =>   -- `d0` is done with `o` (`h1`), the rest answers `more` (`h2`)
    cases h
    rcases List.mem_cons.1 hd with rfl | hd
    · exact ⟨o, h1, List.mem_cons_self⟩
    · obtain ⟨o', ho', hm⟩ := ih h2 hd
      exact ⟨o', ho', List.mem_cons_of_mem _ hm⟩
  | case3 => cases h                   -- otherwise `none`

theorem depsDone_none_of_not_done {pre : List (Label × Entry)} {deps : List Label} {d : Label}
    (hd : d ∈ deps) (h : ∀ o, lookupL d pre ≠ some (.done, o)) : depsDone pre deps = none := by
  cases hdd : depsDone pre deps with
  | none => rfl
  | some dr =>
    obtain ⟨o, ho, -⟩ := depsDone_some_mem hdd hd
    exact absurd ho (h o)

theorem depsDone_not_ok {pre : List (Label × Entry)} {deps : List Label} {d : Label} (hd : d ∈ deps)
    (hbad : ∀ v rid, lookupL d pre ≠ some (.done, ⟨.ok v, rid⟩)) (dr) (hdd : depsDone pre deps = some dr) :
    okVals dr = none := by
  obtain ⟨⟨r, rid⟩, ho, hmem⟩ := depsDone_some_mem hdd hd
  refine (okVals_none_iff dr).2 ⟨(d, r), hmem, ?_⟩
  cases r with
  | ok v => exact absurd ho (hbad v rid)
  | _ => rfl

section run
variable (eval : EvalFn) (frun : FRun) (trig : JVal) (cause : Bool)

theorem runStepsF_keep {l : Label} {v : Entry} (steps : List Step) (tags : List (Label × StepTags)) (acc : RunEval)
    (h : lookupL l acc.pre = some v) :
      lookupL l (runStepsF eval frun trig cause steps tags acc).pre = some v := by
  fun_induction runStepsF eval frun trig cause steps tags acc with
  | case1 => exact h
  | case2 _ _ _ _ _ _ _ ih => exact ih (lookupL_append_left h)   -- a step with its tags: its entry is appended
  | case3 => exact h                                             -- steps and tags differ in number

theorem runStepsF_spec (steps : List Step) (tags : List (Label × StepTags)) (acc : RunEval)
    (hwf : wfSteps (acc.pre.map (·.1)) steps = true)
    (hok : (runStepsF eval frun trig cause steps tags acc).ok = true) :
    acc.ok = true ∧
    (∀ s ∈ steps, ∃ tg, (s.label, tg) ∈ tags ∧
      (evalStep eval frun trig cause
        (depsDone (runStepsF eval frun trig cause steps tags acc).pre s.deps) s tg).ok = true ∧
      lookupL s.label (runStepsF eval frun trig cause steps tags acc).pre =
        some (tg.tag, (evalStep eval frun trig cause
          (depsDone (runStepsF eval frun trig cause steps tags acc).pre s.deps) s tg).out)) ∧
    (∀ l ∈ (runStepsF eval frun trig cause steps tags acc).mayRun, l ∈ acc.mayRun ∨
      ∃ s ∈ steps, s.label = l ∧ ∃ tg, (evalStep eval frun trig cause
          (depsDone (runStepsF eval frun trig cause steps tags acc).pre s.deps) s tg).mayRun = true) := by
  fun_induction runStepsF eval frun trig cause steps tags acc with
  | case1 acc => exact ⟨hok, fun _ hs => absurd hs List.not_mem_nil, fun l hl => Or.inl hl⟩
  | case3 => cases hok   -- steps and tags differ in number: not consistent
  | case2 s0 rest l0 tg0 ts acc e0 ih =>
    -- the head is evaluated on `acc` (`e0`), the rest runs from `acc'`
    let acc' : RunEval := ⟨acc.ok && e0.ok && decide (l0 = s0.label), acc.pre ++ [(s0.label, (tg0.tag, e0.out))],
      if e0.mayRun then acc.mayRun ++ [s0.label] else acc.mayRun⟩
    obtain ⟨hdeps, hfresh, hrest⟩ := wfSteps_cons_iff.1 hwf
    obtain ⟨hacc', hsteps, hmay⟩ := ih (by simpa using hrest) hok
    obtain ⟨⟨hacc, he0⟩, rfl⟩ : (acc.ok = true ∧ e0.ok = true) ∧ l0 = s0.label := by
      simpa [Bool.and_eq_true] using hacc'
    -- the head's dependencies are all in `acc.pre`, so they read the same in the final list
    have hdd : depsDone (runStepsF eval frun trig cause rest ts acc').pre s0.deps = depsDone acc.pre s0.deps := by
      apply depsDone_congr
      intro d hd
      obtain ⟨v, hv⟩ := lookupL_some_of_mem (hdeps d hd)
      rw [hv]
      exact runStepsF_keep eval frun trig cause rest ts acc' (lookupL_append_left hv)
    refine ⟨hacc, fun s hs => ?_, fun l hl => ?_⟩
    · rcases List.mem_cons.1 hs with rfl | hs
      · rw [hdd]
        refine ⟨tg0, List.mem_cons_self, he0, runStepsF_keep eval frun trig cause rest ts _ ?_⟩
        show lookupL s.label (acc.pre ++ [(s.label, (tg0.tag, e0.out))]) = _
        rw [lookupL_append_right hfresh]
        exact lookupL_singleton _ _
      · obtain ⟨tg, htg, h⟩ := hsteps s hs
        exact ⟨tg, List.mem_cons_of_mem _ htg, h⟩
    · rcases hmay l hl with h | ⟨s, hs, h⟩
      · -- `l` was in `mayRun` before the rest ran: it was in `acc.mayRun`, or it is the head's label
        by_cases hm0 : e0.mayRun = true
        · simp only [hm0, if_true, List.mem_append, List.mem_singleton] at h
          rcases h with h | rfl
          · exact Or.inl h
          · exact Or.inr ⟨s0, List.mem_cons_self, rfl, tg0, by rw [hdd]; exact hm0⟩
        · exact Or.inl (by rwa [if_neg hm0] at h)
      · exact Or.inr ⟨s, List.mem_cons_of_mem _ hs, h⟩

theorem runStepsF_labels (steps : List Step) (tags : List (Label × StepTags)) (acc : RunEval)
    (hok : (runStepsF eval frun trig cause steps tags acc).ok = true) :
    (runStepsF eval frun trig cause steps tags acc).pre.map (·.1) = acc.pre.map (·.1) ++ labels steps := by
  fun_induction runStepsF eval frun trig cause steps tags acc with
  | case1 acc => simp [labels]
  | case2 s ss l tg ts acc e ih => rw [ih hok]; simp [labels]   -- a step with its tags
  | case3 => cases hok                                          -- steps and tags differ in number

end run

section possible
variable {eval : EvalFn} {frun : FRun} {trig : JVal} {interrupted : Bool} {wf : Workflow}
  {tags : List (Label × StepTags)}

theorem possible_step (hwf : wf.WF = true)
    (hp : Possible eval frun trig interrupted wf tags) {s : Step} (hs : s ∈ wf.steps) :
    ∃ tg, (s.label, tg) ∈ tags ∧
      (evalStep eval frun trig (causeOf interrupted tags)
        (depsDone (entriesF eval frun trig interrupted wf tags) s.deps) s tg).ok = true ∧
      lookupL s.label (entriesF eval frun trig interrupted wf tags) =
        some (tg.tag, (evalStep eval frun trig (causeOf interrupted tags)
          (depsDone (entriesF eval frun trig interrupted wf tags) s.deps) s tg).out) :=
  (runStepsF_spec eval frun trig (causeOf interrupted tags) wf.steps tags {}
    hwf hp).2.1 s hs

theorem possible_not_mayRun (hwf : wf.WF = true)
    (hp : Possible eval frun trig interrupted wf tags) {s : Step} (hs : s ∈ wf.steps)
    (h : ∀ tg, (evalStep eval frun trig (causeOf interrupted tags)
        (depsDone (entriesF eval frun trig interrupted wf tags) s.deps) s tg).mayRun = false) :
    s.label ∉ mayRunF eval frun trig interrupted wf tags := fun hl => by
  rcases (runStepsF_spec eval frun trig (causeOf interrupted tags) wf.steps tags {}
    hwf hp).2.2 _ hl with h' | ⟨s', hs', hl', tg, hrun⟩
  · cases h'
  · cases step_unique (WF_nodup hwf) hs' hs hl'
    cases (h tg).symm.trans hrun

theorem possible_labels (hp : Possible eval frun trig interrupted wf tags) :
    (entriesF eval frun trig interrupted wf tags).map (·.1) = labels wf.steps :=
  runStepsF_labels eval frun trig (causeOf interrupted tags) wf.steps tags {} hp

end possible

theorem mem_listed_of_entry {wf : Workflow} {pre : List (Label × Entry)} {s : Step} {e : Entry}
    (hs : s ∈ wf.steps) (hl : lookupL s.label pre = some e) :
    e.2 ∈ (listed wf (pre.map fun p => (p.1, p.2.2))).map (·.2) :=
  mem_listed_of_lookup hs (by rw [lookupL_map_snd (fun e : Entry => e.2), hl]; rfl)

theorem condsOfStep_reason {s : Step} {e : Entry} {c : Condition} (hc : c ∈ condsOfStep s e) :
    c.reason = reason e.2.res := by
  revert hc
  fun_cases condsOfStep s e <;> intro hc
  · rw [List.mem_singleton.1 hc]   -- done, with a configured condition
  · cases hc                       -- done, without
  · rw [List.mem_singleton.1 hc]   -- not done: the `Ready` condition of the fault branches

theorem mem_stepCondsF {wf : Workflow} {pre : List (Label × Entry)} {c : Condition}
    (hc : c ∈ stepCondsF wf pre) : ∃ s ∈ wf.steps, ∃ e, lookupL s.label pre = some e ∧ c ∈ condsOfStep s e := by
  obtain ⟨s, hs, hcs⟩ := List.mem_flatMap.1 hc
  cases hl : lookupL s.label pre with
  | none => rw [hl] at hcs; cases hcs
  | some e => rw [hl] at hcs; exact ⟨s, hs, e, hl, hcs⟩

theorem evalLogicF_lift (eval : EvalFn) (run : RunFn) (l : Label) (i : Option Nat) (act inputs) (logic : Logic)
    (cause : Bool) :
    tagOK cause (evalLogicF eval (liftRun run) l i act inputs logic).1 .done = true ∧
    taskOut (evalLogicF eval (liftRun run) l i act inputs logic).1 .done =
      (runLogic eval run l i act inputs logic).1 := by
  cases logic with
  | ref t => exact ⟨rfl, rfl⟩
  | switch on cases dflt =>
    simp only [evalLogicF, runLogic]
    cases select eval on cases dflt act inputs <;> exact ⟨rfl, rfl⟩

theorem itemAnswers_lift (eval : EvalFn) (run : RunFn) (l : Label) (act inputs key logic) (cause : Bool) :
    ∀ (i : Nat) (items : List JVal),
      zipOK cause (itemAnswers eval (liftRun run) l act inputs key logic i items)
        (items.map fun _ => Tag.done) = true ∧
      zipOut (itemAnswers eval (liftRun run) l act inputs key logic i items) (items.map fun _ => Tag.done) =
        (runItems eval run l act inputs key logic i items).map (·.1)
  | _, [] => ⟨rfl, rfl⟩
  | i, it :: rest => by
    obtain ⟨h1, h2⟩ := evalLogicF_lift eval run l (some i) act (setKey key it inputs) logic cause
    obtain ⟨ih1, ih2⟩ := itemAnswers_lift eval run l act inputs key logic cause (i + 1) rest
    simp only [itemAnswers, List.map_cons, zipOK, zipOut, runItems, h1, h2, ih1, ih2, Bool.and_self, and_self]

theorem depsDone_all_done (res : List (Label × StepOut)) (deps : List Label)
    (h : ∀ d ∈ deps, d ∈ res.map (·.1)) :
    depsDone (res.map fun p => (p.1, (Tag.done, p.2))) deps = some (depRes res deps) := by
  induction deps with
  | nil => rfl
  | cons d rest ih =>
    obtain ⟨o, ho⟩ := lookupL_some_of_mem (h d List.mem_cons_self)
    have hl : lookupL d (res.map fun p => (p.1, (Tag.done, p.2))) = some (Tag.done, o) := by
      rw [lookupL_map_snd (fun o : StepOut => (Tag.done, o)) d res, ho]; rfl
    simp only [depsDone, hl, ih (fun d' hd' => h d' (List.mem_cons_of_mem _ hd'))]
    simp [depRes, ho]

theorem evalStep_fault_free (eval : EvalFn) (run : RunFn) (trig : JVal) (cause : Bool)
    (dr : List (Label × StepRes)) (s : Step) :
    (evalStep eval (liftRun run) trig cause (some dr) s
      ⟨.done, match gate eval trig dr s with
        | .each _ _ _ items => items.map fun _ => Tag.done
        | _ => []⟩).ok = true ∧
    (evalStep eval (liftRun run) trig cause (some dr) s
      ⟨.done, match gate eval trig dr s with
        | .each _ _ _ items => items.map fun _ => Tag.done
        | _ => []⟩).out = (stepResult eval run trig dr s).1 := by
  cases hg : gate eval trig dr s with
  | done o =>
    rw [evalStep_done hg, stepResult_done hg]
    exact ⟨rfl, rfl⟩
  | single act inputs =>
    obtain ⟨h1, h2⟩ := evalLogicF_lift eval run s.label none act inputs s.logic cause
    rw [evalStep_single hg, stepResult_single hg, h1]
    exact ⟨rfl, h2⟩
  | each act inputs key items =>
    obtain ⟨z1, z2⟩ := itemAnswers_lift eval run s.label act inputs key s.logic
      (cause || (items.map fun _ => Tag.done).any fun t => decide (t = Tag.raised)) 0 items
    rw [evalStep_each hg (by simpa using gate_each_ne_nil hg), stepResult_each hg]
    exact ⟨z1, congrArg combineItems z2⟩

theorem runStepsF_fault_free (eval : EvalFn) (run : RunFn) (trig : JVal) (cause : Bool) :
    ∀ (steps : List Step) (t : Trace) (acc : RunEval),
      wfSteps (t.results.map (·.1)) steps = true →
      acc.ok = true → acc.pre = t.results.map (fun p => (p.1, (Tag.done, p.2))) →
      (runStepsF eval (liftRun run) trig cause steps (doneTags eval run trig steps t) acc).ok = true ∧
      (runStepsF eval (liftRun run) trig cause steps (doneTags eval run trig steps t) acc).pre =
        (runSteps eval run trig steps t).results.map (fun p => (p.1, (Tag.done, p.2)))
  | [], t, acc, _, hok, hpre => ⟨hok, hpre⟩
  | s :: rest, t, acc, hwf, hok, hpre => by
    obtain ⟨hdeps, -, hrest⟩ := wfSteps_cons_iff.1 hwf
    have hdd : depsDone acc.pre s.deps = some (depRes t.results s.deps) := by
      rw [hpre]; exact depsDone_all_done t.results s.deps hdeps
    obtain ⟨e1, e2⟩ := evalStep_fault_free eval run trig cause (depRes t.results s.deps) s
    simp only [doneTags, runStepsF, runSteps, hdd]
    apply runStepsF_fault_free eval run trig cause rest
    · simpa using hrest
    · simp only [hok, Bool.true_and, decide_true, Bool.and_true]
      exact e1
    · simp only [hpre, List.map_append, List.map_cons, List.map_nil]
      exact congrArg (fun o => List.map (fun p : Label × StepOut => (p.1, (Tag.done, p.2))) t.results ++
        [(s.label, (Tag.done, o))]) e2

theorem stepCondsF_all_done (res : List (Label × StepOut)) (steps : List Step) :
    (steps.flatMap fun s => match lookupL s.label (res.map fun p => (p.1, (Tag.done, p.2))) with
      | some e => condsOfStep s e
      | none => []) =
    stepConds (steps.filterMap fun s => (lookupL s.label res).map fun o => (s, o)) := by
  induction steps with
  | nil => rfl
  | cons s rest ih =>
    rw [List.flatMap_cons, List.filterMap_cons, ih,
      lookupL_map_snd (fun o : StepOut => (Tag.done, o)) s.label res]
    cases hl : lookupL s.label res with
    | none => simp
    | some o =>
      simp only [Option.map_some, stepConds, List.filterMap_cons, condsOfStep]
      cases s.cond <;> simp

theorem map_done_results (res : List (Label × StepOut)) :
    ((res.map fun p => (p.1, (Tag.done, p.2))).map fun p => (p.1, p.2.2)) = res := by
  rw [List.map_map]
  exact List.map_id' _

theorem collectF_all_done (eval : EvalFn) (wf : Workflow) (res : List (Label × StepOut)) :
    collectF eval wf (res.map fun p => (p.1, (Tag.done, p.2))) = collect eval wf res := by
  unfold collectF
  rw [map_done_results]
  have hc : stepCondsF wf (res.map fun p => (p.1, (Tag.done, p.2))) = stepConds (listed wf res) :=
    stepCondsF_all_done res wf.steps
  rw [hc]
  rfl

theorem evalStep_cancelled_ok (eval : EvalFn) (frun : FRun) (trig : JVal)
    (dd : Option (List (Label × StepRes))) (s : Step) :
    (evalStep eval frun trig true dd s ⟨.cancelled, []⟩).ok = true := by
  cases dd with
  | none => rfl
  | some dr =>
    cases hg : gate eval trig dr s with
    | done o => rw [evalStep_done hg]; rfl
    | single act inputs => rw [evalStep_single hg]; rfl
    | each act inputs key items => rw [evalStep_each_nil hg rfl]; rfl

theorem runStepsF_all_cancelled (eval : EvalFn) (frun : FRun) (trig : JVal) :
    ∀ (steps : List Step) (acc : RunEval), acc.ok = true →
      (runStepsF eval frun trig true steps (steps.map fun s => (s.label, ⟨.cancelled, []⟩)) acc).ok = true
  | [], acc, h => h
  | s :: rest, acc, h => by
    simp only [List.map_cons, runStepsF]
    apply runStepsF_all_cancelled eval frun trig rest
    simp [h, evalStep_cancelled_ok]

section rf
variable {S : Type} (m : RMach S) (cfg : RfCfg)

theorem rfPass_far {j : Nat} (k : FaultKind) (hj : 2 ≤ j) (s : S) :
    rfPass m cfg (some (j, k)) s = rfPass m cfg none s := by
  have h : ∀ i, i < 2 → faultAt (some (j, k)) i = faultAt none i := fun i hi => if_neg (by omega)
  unfold rfPass
  rw [h 0 (by decide), h 1 (by decide)]

/-- last branch: after a believed 404 the POST may meet the object after all (409), and then changes nothing -/
theorem rfPass_get_fault (k : FaultKind) (s : S) :
    rfPass m cfg (some (0, k)) s =
      if k = .hang then ⟨.hung, s, [.get]⟩
      else if k ≠ .e404 then ⟨.retry cfg.loadDelay, s, [.get]⟩
      else if cfg.deleteIfExists then ⟨.ok s, s, [.get]⟩
      else if cfg.readonly || !cfg.createEnabled then ⟨.retry cfg.loadDelay, s, [.get]⟩
      else ⟨.retry cfg.createDelay, if m.present s then s else m.create s, [.get, .post]⟩ := by
  cases k <;> simp [rfPass, faultAt]

theorem rfPass_none_absent {s : S} (hp : m.present s = false) : rfPass m cfg none s =
    if cfg.deleteIfExists then ⟨.ok s, s, [.get]⟩
    else if cfg.readonly || !cfg.createEnabled then ⟨.retry cfg.loadDelay, s, [.get]⟩
    else ⟨.retry cfg.createDelay, m.create s, [.get, .post]⟩ := by
  simp [rfPass, faultAt, hp]

theorem rfPass_none_present {s : S} (hp : m.present s = true) : rfPass m cfg none s =
    if cfg.deleteIfExists then ⟨.retry cfg.loadDelay, m.delete s, [.get, .delete]⟩
    else if cfg.readonly || m.meets s then ⟨.ok s, s, [.get]⟩
    else match cfg.policy with
      | .never => ⟨.ok s, s, [.get]⟩
      | .patch => ⟨.retry cfg.updateDelay, m.patch s, [.get, .patch]⟩
      | .recreate => ⟨.retry cfg.updateDelay, m.delete s, [.get, .delete]⟩ := by
  simp only [rfPass, faultAt, hp, mutateUnguarded]
  rfl

theorem mutateUnguarded_cases {P : RfStep S → Prop} (f : Option FaultKind) (s s' : S) (d : Int) (mth : Method)
    (h : ∀ a st, (∀ x, a ≠ .ok x) → (st = s ∨ st = s') → P ⟨a, st, [.get, mth]⟩) :
    P (mutateUnguarded f s s' d mth) := by
  unfold mutateUnguarded
  split
  · exact h _ _ nofun (Or.inr rfl)   -- no fault
  · exact h _ _ nofun (Or.inl rfl)   -- hang
  · exact h _ _ nofun (Or.inr rfl)   -- raise-after: the mutation took effect
  · exact h _ _ nofun (Or.inl rfl)   -- any other fault

/-- the one fault a Function cannot tell from the truth: a 404 on the GET of a `deleteIfExists` Function says "the
    object is gone", which is all that Function wants to hear -/
def Believable (cfg : RfCfg) (j : Nat) (k : FaultKind) : Prop :=
  cfg.deleteIfExists = true ∧ j = 0 ∧ k = .e404

theorem rfPass_cases {P : RfStep S → Prop} (fault : Option (Nat × FaultKind)) (s : S)
    (quiet : ∀ a, (∀ x, a = .ok x → x = s ∧ ∀ k, faultAt fault 0 = some k → Believable cfg 0 k) →
      P ⟨a, s, [.get]⟩)
    (mutates : ∀ a st mth, (∀ x, a ≠ .ok x) → (st = s ∨ st = (rfPass m cfg none s).st) →
      P ⟨a, st, [.get, mth]⟩) :
    P (rfPass m cfg fault s) := by
  -- what the evaluation takes the object for: the truth if the GET is not hit, absent after a 404
  have hview : ∀ b, (match faultAt fault 0 with
        | none => some (m.present s) | some .e404 => some false | some _ => none) = some b →
      (faultAt fault 0 = none ∧ m.present s = b) ∨ (faultAt fault 0 = some .e404 ∧ b = false) := by
    intro b h
    split at h
    · next h0 => exact Or.inl ⟨h0, Option.some.inj h⟩
    · next h0 => exact Or.inr ⟨h0, (Option.some.inj h).symm⟩
    · cases h
  -- the POST creates the object, or meets it (409 after a believed 404) and changes nothing
  have hpost : ¬ cfg.deleteIfExists = true → ¬ (cfg.readonly || !cfg.createEnabled) = true →
      (if m.present s then s else m.create s) = s ∨
      (if m.present s then s else m.create s) = (rfPass m cfg none s).st := fun hde hro => by
    cases hp : m.present s with
    | true => exact Or.inl rfl
    | false => right; rw [rfPass_none_absent m cfg hp, if_neg hde, if_neg hro]; rfl
  -- a DELETE or PATCH whose effect `s'` is that of the fault-free evaluation
  have hmut := fun f s' d mth (h : s' = (rfPass m cfg none s).st) =>
    mutateUnguarded_cases (P := P) f s s' d mth fun a st ha hst => mutates a st _ ha (h ▸ hst)
  fun_cases rfPass m cfg fault s
  · exact quiet _ nofun   -- the GET hangs
  · exact quiet _ nofun   -- the GET fails otherwise
  · next hv hde _ =>      -- taken for absent, which is what `deleteIfExists` wants
    refine quiet _ fun x hx => ⟨by cases hx; rfl, fun k hk => ?_⟩
    rcases hview _ hv with h | h <;> rw [h.1] at hk <;> cases hk
    exact ⟨hde, rfl, rfl⟩   -- the GET was hit, so by a 404
  · exact quiet _ nofun   -- taken for absent, may not create
  · next hde hro _ _ _ => exact mutates _ _ _ nofun (hpost hde hro)   -- no fault on the POST
  · exact mutates _ _ _ nofun (Or.inl rfl)                             -- hang
  · exact mutates _ _ _ nofun (Or.inl rfl)                             -- 409
  · next hde hro _ _ _ => exact mutates _ _ _ nofun (hpost hde hro)   -- raise-after: the object was created
  · exact mutates _ _ _ nofun (Or.inl rfl)                             -- any other fault
  -- seen present: the GET was not hit
  all_goals
    obtain ⟨h0, hp⟩ : faultAt fault 0 = none ∧ m.present s = true :=
      (hview true (by assumption)).elim id fun h => Bool.noConfusion h.2
  · next hde _ => exact hmut _ _ _ _ (by rw [rfPass_none_present m cfg hp, if_pos hde])   -- deleteIfExists
  · exact quiet _ fun x hx => ⟨by cases hx; rfl, fun k hk => nomatch h0.symm.trans hk⟩   -- readonly, or matches
  · exact quiet _ fun x hx => ⟨by cases hx; rfl, fun k hk => nomatch h0.symm.trans hk⟩   -- policy never
  · next hde hro hpol _ =>                                                                 -- patch
    exact hmut _ _ _ _ (by rw [rfPass_none_present m cfg hp, if_neg hde, if_neg hro, hpol])
  · next hde hro hpol _ =>                                                                 -- recreate
    exact hmut _ _ _ _ (by rw [rfPass_none_present m cfg hp, if_neg hde, if_neg hro, hpol])

theorem rfPass_state_between (fault : Option (Nat × FaultKind)) (s : S) :
    (rfPass m cfg fault s).st = s ∨ (rfPass m cfg fault s).st = (rfPass m cfg none s).st :=
  rfPass_cases m cfg (P := fun r => r.st = s ∨ r.st = _) fault s (fun _ _ => Or.inl rfl) (fun _ _ _ _ h => h)

theorem rfPass_ok_unchanged (fault : Option (Nat × FaultKind)) (s x : S)
    (h : (rfPass m cfg fault s).ans = .ok x) : (rfPass m cfg fault s).st = s ∧ x = s :=
  rfPass_cases m cfg (P := fun r => r.ans = .ok x → r.st = s ∧ x = s) fault s
    (fun _ ha h => ⟨rfl, (ha x h).1⟩) (fun _ _ _ ha _ h => absurd h (ha x)) h

theorem rfPass_absent_st {s : S} (hp : m.present s = false) :
    (rfPass m cfg none s).st = s ∨ (cfg.deleteIfExists = false ∧ (rfPass m cfg none s).st = m.create s) := by
  rw [rfPass_none_absent m cfg hp]
  split
  · exact Or.inl rfl                                  -- deleteIfExists
  · next hde =>
    split
    · exact Or.inl rfl                                -- may not create
    · exact Or.inr ⟨Bool.eq_false_iff.2 hde, rfl⟩    -- POST

theorem rfPass_present_st {s : S} (hp : m.present s = true) :
    (rfPass m cfg none s).st = s ∨
    (cfg.deleteIfExists = false ∧ (rfPass m cfg none s).st = m.patch s) ∨
    ((cfg.deleteIfExists = true ∨ cfg.policy = .recreate) ∧ (rfPass m cfg none s).st = m.delete s) := by
  rw [rfPass_none_present m cfg hp]
  split
  · next hde => exact Or.inr (Or.inr ⟨Or.inl hde, rfl⟩)          -- deleteIfExists
  · next hde =>
    split
    · exact Or.inl rfl                                            -- readonly, or matches
    · split
      · exact Or.inl rfl                                          -- policy never
      · exact Or.inr (Or.inl ⟨Bool.eq_false_iff.2 hde, rfl⟩)     -- patch
      · next hpol => exact Or.inr (Or.inr ⟨Or.inr hpol, rfl⟩)    -- recreate

theorem rfPass_fixed_of_meets {s : S} (hde : cfg.deleteIfExists = false) (hp : m.present s = true)
    (hm : m.meets s = true) : (rfPass m cfg none s).st = s := by
  simp [rfPass_none_present m cfg hp, hde, hm]

theorem rfPass_stable_of_absent (hconv : Converges m) {s : S} (hp : m.present s = false) :
    (rfPass m cfg none (rfPass m cfg none s).st).st = (rfPass m cfg none s).st := by
  rcases rfPass_absent_st m cfg hp with h | ⟨hde, h⟩
  · rw [h, h]
  · rw [h]
    exact rfPass_fixed_of_meets m cfg hde (hconv.create_ok s hp).1 (hconv.create_ok s hp).2

theorem rfPass_stable_or_deleted (hconv : Converges m) (s : S) :
    (rfPass m cfg none (rfPass m cfg none s).st).st = (rfPass m cfg none s).st ∨
    ((cfg.deleteIfExists = true ∨ cfg.policy = .recreate) ∧ (rfPass m cfg none s).st = m.delete s) := by
  cases hp : m.present s with
  | false => exact Or.inl (rfPass_stable_of_absent m cfg hconv hp)
  | true =>
    rcases rfPass_present_st m cfg hp with h | ⟨hde, h⟩ | h
    · left; rw [h, h]
    · left; rw [h]
      exact rfPass_fixed_of_meets m cfg hde (hconv.patch_ok s hp).1 (hconv.patch_ok s hp).2
    · exact Or.inr h

theorem rfPass_stable (hconv : Converges m) (hpol : cfg.policy ≠ .recreate) (hnd : cfg.deleteIfExists = false)
    (s : S) :
    (rfPass m cfg none (rfPass m cfg none s).st).st = (rfPass m cfg none s).st :=
  (rfPass_stable_or_deleted m cfg hconv s).resolve_right fun h =>
    h.1.elim (fun hd => by rw [hnd] at hd; cases hd) hpol

/-- holds for every policy; only delete-to-recreate needs the second evaluation (delete, then create) -/
theorem rfPass_recreate_fixed (hconv : Converges m) (hdel : ∀ s, m.present (m.delete s) = false) (s : S) :
    (rfPass m cfg none (rfPass m cfg none (rfPass m cfg none s).st).st).st =
      (rfPass m cfg none (rfPass m cfg none s).st).st := by
  rcases rfPass_stable_or_deleted m cfg hconv s with h | ⟨-, h⟩
  · rw [h]; exact h
  · rw [h]; exact rfPass_stable_of_absent m cfg hconv (hdel s)

theorem rfPass_delete_fixed (hde : cfg.deleteIfExists = true) (hdel : ∀ s, m.present (m.delete s) = false) (s : S) :
    (rfPass m cfg none (rfPass m cfg none s).st).st = (rfPass m cfg none s).st := by
  have habs : ∀ s, m.present s = false → (rfPass m cfg none s).st = s := fun s hp => by
    rw [rfPass_none_absent m cfg hp, if_pos hde]
  cases hp : m.present s with
  | false => rw [habs s hp, habs s hp]
  | true => rw [rfPass_none_present m cfg hp, if_pos hde]; exact habs _ (hdel s)

theorem rfPass_after_fault (hconv : Converges m) (hpol : cfg.policy ≠ .recreate) (hnd : cfg.deleteIfExists = false)
    (f : Option (Nat × FaultKind)) (s : S) :
    (rfPass m cfg none (rfPass m cfg f s).st).st = (rfPass m cfg none s).st := by
  rcases rfPass_state_between m cfg f s with e | e
  · rw [e]
  · rw [e]; exact rfPass_stable m cfg hconv hpol hnd s

theorem afterFaults_next (hconv : Converges m) (hpol : cfg.policy ≠ .recreate) (hnd : cfg.deleteIfExists = false) :
    ∀ (fs : List (Option (Nat × FaultKind))) (s : S),
      (rfPass m cfg none (afterFaults m cfg fs s)).st = (rfPass m cfg none s).st
  | [], _ => rfl
  | f :: fs, s =>
    (afterFaults_next hconv hpol hnd fs (rfPass m cfg f s).st).trans (rfPass_after_fault m cfg hconv hpol hnd f s)

theorem iter_fixed {s : S} (h : (rfPass m cfg none s).st = s) : ∀ n, iter m cfg n s = s
  | 0 => rfl
  | n + 1 => by show iter m cfg n (rfPass m cfg none s).st = s; rw [h]; exact iter_fixed h n

theorem iter_stable (hconv : Converges m) (hpol : cfg.policy ≠ .recreate) (hnd : cfg.deleteIfExists = false)
    {s s' : S} (h : (rfPass m cfg none s').st = (rfPass m cfg none s).st) :
    ∀ n, 1 ≤ n → iter m cfg n s' = iter m cfg 1 s := by
  intro n hn
  obtain ⟨k, rfl⟩ : ∃ k, n = k + 1 := ⟨n - 1, by omega⟩
  show iter m cfg k (rfPass m cfg none s').st = _
  rw [h]
  exact iter_fixed m cfg (rfPass_stable m cfg hconv hpol hnd s) k

end rf

theorem jvalMach_converges {cmp : JVal → Bool} {created body : JVal} (hcreate : cmp created = true)
    (hpatch : ∀ live, cmp (mergePatch live body) = true) : Converges (jvalMach cmp created body) where
  create_ok := fun _ _ => ⟨rfl, hcreate⟩
  patch_ok := fun s hs => match s, hs with
    | some v, _ => ⟨rfl, hpatch v⟩

section dagSys
variable {S V R : Type}

theorem depVals_congr {okv : R → Option V} {r r' : Nat → R} {ds : List Nat}
    (h : ∀ d ∈ ds, okv (r d) = okv (r' d)) : depVals okv r ds = depVals okv r' ds := by
  induction ds with
  | nil => rfl
  | cons d ds ih =>
    simp only [depVals]
    rw [h d List.mem_cons_self, ih (fun d' hd' => h d' (List.mem_cons_of_mem _ hd'))]

theorem depVals_mono {okv : R → Option V} {r r' : Nat → R} {ds : List Nat} {vs : List V}
    (h : ∀ d ∈ ds, ∀ v, okv (r d) = some v → okv (r' d) = some v)
    (hv : depVals okv r ds = some vs) : depVals okv r' ds = some vs := by
  fun_induction depVals okv r ds generalizing vs with
  | case1 => exact hv
  | case2 d ds v ws h2 h1 ih =>   -- `d` is Ok with `v` (`h1`), the rest with `ws` (`h2`)
    simp only [depVals]
    rw [h d List.mem_cons_self v h1, ih (fun d' hd' => h d' (List.mem_cons_of_mem _ hd')) h2]
    exact hv
  | case3 => cases hv             -- otherwise `none`

/-- A table `f fuel i` defined by recursion on the fuel over backward-pointing `deps` (`hf`: `body` is one unfolding,
    `res` reads the result out of an entry), read at fuel `i + 1`, satisfies its own unfolding with every dependency
    `d` read at ITS fuel `d + 1`.  `α` is dependent because the steps of a `GSys` have state types of their own. -/
theorem fuelRec_eq {α : Nat → Type} {okv : R → Option V} {deps : Nat → List Nat}
    (hwf : ∀ i, ∀ d ∈ deps i, d < i) (res : ∀ i, α i → R) (body : ∀ i, Option (List V) → α i)
    (f : Nat → ∀ i, α i)
    (hf : ∀ fuel i, f (fuel + 1) i = body i (depVals okv (fun d => res d (f fuel d)) (deps i))) (i : Nat) :
    f (i + 1) i = body i (depVals okv (fun d => res d (f (d + 1) d)) (deps i)) := by
  -- at any fuel above `i`; both readings of a dependency `d` are then the same unfolding
  suffices h : ∀ fuel, i < fuel → f fuel i = body i (depVals okv (fun d => res d (f (d + 1) d)) (deps i)) from
    h (i + 1) (Nat.lt_succ_self i)
  induction i using Nat.strongRecOn with
  | ind i ih =>
    intro fuel hlt
    obtain ⟨g, rfl⟩ : ∃ g, fuel = g + 1 := ⟨fuel - 1, by omega⟩
    rw [hf]
    congr 1
    apply depVals_congr
    intro d hd
    have hdi := hwf i d hd
    show okv (res d (f g d)) = okv (res d (f (d + 1) d))
    rw [ih d hdi g (by omega), ih d hdi (d + 1) (Nat.lt_succ_self d)]

variable {sys : DagSys S V R}

theorem passF_isPass (hwf : ∀ i, ∀ d ∈ sys.deps i, d < i) (c : Nat → S) :
    IsPass sys c (passS sys c) (passR sys c) := by
  intro i _
  have he : (passS sys c i, passR sys c i) =
      match depVals sys.okv (passR sys c) (sys.deps i) with
      | some vs => sys.pass i vs (c i)
      | none => (c i, sys.gated) :=
    show passF sys c (i + 1) i = _ from
    fuelRec_eq (okv := sys.okv) hwf (fun _ p => p.2)
      (fun i o => match o with
        | some vs => sys.pass i vs (c i)
        | none => (c i, sys.gated))
      (passF sys c) (fun _ _ => rfl) i
  cases hd : depVals sys.okv (passR sys c) (sys.deps i) with
  | some vs => rw [hd] at he; exact ⟨congrArg Prod.fst he, congrArg Prod.snd he⟩
  | none => rw [hd] at he; exact Prod.mk.inj he

structure Hyps (sys : DagSys S V R) (F : Nat → List V → S → S → Prop) : Prop where
  wf : ∀ i, ∀ d ∈ sys.deps i, d < i
  gated_not_ok : sys.okv sys.gated = none
  /-- one fault-free evaluation reaches a state that a second one leaves alone -/
  stable : ∀ i vs s, (sys.pass i vs (sys.pass i vs s).1).1 = (sys.pass i vs s).1
  /-- an evaluation that answers Ok has changed nothing -/
  ok_unchanged : ∀ i vs s v, sys.okv (sys.pass i vs s).2 = some v → (sys.pass i vs s).1 = s
  /-- an evaluation hit by a fault leaves a state from which the next fault-free one lands where it would have -/
  faulty_same_target : ∀ i vs s s', F i vs s s' → (sys.pass i vs s').1 = (sys.pass i vs s).1

end dagSys

end Koreo.WorkflowFaults
