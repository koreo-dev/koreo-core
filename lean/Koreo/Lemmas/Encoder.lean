/-
  Lemmas for C11 (`Koreo/Props/C11.lean`): each of celpy's readers is computed on exactly the texts the encoder
  writes.  A numeral is what the encoder's regex accepts, and celpy's two number readers are followed through the
  regex's own walk; a string literal is read back one written character per scanner step; a whole value is cut
  into the tokens `toks v` and those are parsed back, by induction along `enc` / `toks`.  What may follow a token
  (`sepStart`) is the one assumption on the surrounding text.  Core Lean only.
-/
import Koreo.Encoder

namespace Koreo.Encoder

theorem span_append (p : Char → Bool) (l : Str) {rest : Str} (hr : rest.takeWhile p = []) :
    (l ++ rest).takeWhile p = l.takeWhile p ∧ (l ++ rest).dropWhile p = l.dropWhile p ++ rest := by
  induction l with
  | nil =>
    have := List.takeWhile_append_dropWhile (p := p) (l := rest)
    rw [hr] at this
    exact ⟨hr, this⟩
  | cons d l ih => by_cases hd : p d = true <;> simp [hd, ih]

theorem span_all {p : Char → Bool} {l : Str} (h : l.all p = true) {rest : Str} (hr : rest.takeWhile p = []) :
    (l ++ rest).takeWhile p = l ∧ (l ++ rest).dropWhile p = rest := by
  have h := List.all_eq_true.mp h
  rw [List.takeWhile_append_of_pos h, List.dropWhile_append_of_pos h, hr, List.append_nil]
  exact ⟨rfl, (span_append p [] hr).2⟩

theorem takeWhile_all {p : Char → Bool} {w : Str} (h : w.all p = true) : w.takeWhile p = w := by
  simpa using (span_all h (rest := []) rfl).1

theorem dropWhile_all {p : Char → Bool} {w : Str} (h : w.all p = true) : w.dropWhile p = [] := by
  simpa using (span_all h (rest := []) rfl).2

theorem length_span (p : Char → Bool) (l : Str) : (l.takeWhile p).length + (l.dropWhile p).length = l.length := by
  rw [← List.length_append, List.takeWhile_append_dropWhile]

/-- what can follow a token in an emitted text -/
def sepStart (rest : Str) : Prop :=
  rest = [] ∨ ∃ c r, rest = c :: r ∧ (c = ',' ∨ c = ']' ∨ c = '}' ∨ c = ':')

theorem sepStart_nil : sepStart [] := Or.inl rfl
theorem sepStart_cons {c : Char} {r : Str} : sepStart (c :: r) ↔ c = ',' ∨ c = ']' ∨ c = '}' ∨ c = ':' := by
  constructor
  · rintro (h | ⟨_, _, h, hc⟩)
    · cases h
    · cases h; exact hc
  · exact fun hc => Or.inr ⟨c, r, rfl, hc⟩

theorem sepStart_ne {rest : Str} (hs : sepStart rest) {c : Char} (hc : c ≠ ',' ∧ c ≠ ']' ∧ c ≠ '}' ∧ c ≠ ':')
    (r : Str) : rest ≠ c :: r := by
  rintro rfl
  rcases sepStart_cons.mp hs with h | h | h | h <;> simp [h] at hc

theorem sepStart_stops {p : Char → Bool} (hp : p ',' = false ∧ p ']' = false ∧ p '}' = false ∧ p ':' = false)
    {rest : Str} (h : sepStart rest) : rest.takeWhile p = [] := by
  cases rest with
  | nil => rfl
  | cons c r =>
    apply List.takeWhile_cons_of_neg
    rcases sepStart_cons.mp h with rfl | rfl | rfl | rfl <;> simp [hp]

theorem digitChar_isDigit : ∀ d, d < 10 → isDigit (digitChar d) = true := by decide +kernel
theorem digitChar_val : ∀ d, d < 10 → (digitChar d).toNat - 48 = d := by decide +kernel

theorem foldl_digits (b : Str) (acc : Nat) :
    b.foldl (fun a c => a * 10 + (c.toNat - 48)) acc
      = acc * 10 ^ b.length + b.foldl (fun a c => a * 10 + (c.toNat - 48)) 0 := by
  induction b generalizing acc with
  | nil => simp
  | cons c b ih =>
    rw [List.foldl_cons, List.foldl_cons, ih, ih (0 * 10 + _), List.length_cons, Nat.pow_succ,
      Nat.zero_mul, Nat.zero_add, Nat.add_mul, Nat.mul_assoc, Nat.mul_comm 10, Nat.add_assoc]

theorem digitsVal_eq (s : Str) : digitsVal s = s.foldl (fun a c => a * 10 + (c.toNat - 48)) 0 := rfl

theorem digitsVal_append (a b : Str) : digitsVal (a ++ b) = digitsVal a * 10 ^ b.length + digitsVal b := by
  simp only [digitsVal_eq]
  rw [List.foldl_append, foldl_digits]

theorem digitsVal_singleton {d : Nat} (h : d < 10) : digitsVal [digitChar d] = d := by
  simp [digitsVal_eq, digitChar_val d h]

theorem renderNat_spec (n : Nat) :
    (renderNat n).all isDigit = true ∧ renderNat n ≠ [] ∧ digitsVal (renderNat n) = n := by
  fun_induction renderNat n with
  | case1 n h => exact ⟨by simp [digitChar_isDigit n h], by simp, digitsVal_singleton h⟩  -- one digit
  | case2 n h ih =>  -- the digits of n / 10, then n % 10
    obtain ⟨h1, _, h3⟩ := ih
    have hm : n % 10 < 10 := Nat.mod_lt _ (by decide)
    refine ⟨by simp [List.all_append, h1, digitChar_isDigit _ hm], by simp, ?_⟩
    rw [digitsVal_append, h3, digitsVal_singleton hm, List.length_singleton, Nat.pow_one]
    omega

theorem normDec_mul10 (neg : Bool) (m : Nat) (x : Int) : normDec neg (m * 10) (x - 1) = normDec neg m x := by
  by_cases hm : m = 0
  · subst hm; simp [normDec]
  · rw [normDec]
    have h1 : m * 10 ≠ 0 := by omega
    simp [h1]

theorem normDec_pow10 (neg : Bool) (m k : Nat) (x : Int) : normDec neg (m * 10 ^ k) (x - k) = normDec neg m x := by
  induction k generalizing x with
  | zero => simp
  | succ k ih =>
    rw [Nat.pow_succ, ← Nat.mul_assoc, show x - ((k + 1 : Nat) : Int) = (x - k) - 1 by omega, normDec_mul10, ih]

theorem normDec_spec (neg : Bool) (m : Nat) (x : Int) :
    ∃ m' x', normDec neg m x = .dec neg m' x' ∧
      ((m = 0 ∧ m' = 0) ∨ (x ≤ x' ∧ m' * 10 ^ (x' - x).toNat = m)) := by
  fun_induction normDec neg m x with
  | case1 x => exact ⟨0, 0, rfl, .inl ⟨rfl, rfl⟩⟩  -- m = 0
  | case2 m x h0 h10 ih =>  -- a trailing zero goes into the exponent
    obtain ⟨m', x', he, hv⟩ := ih
    refine ⟨m', x', he, .inr ?_⟩
    rcases hv with ⟨hz, _⟩ | ⟨hle, hv⟩
    · omega
    · refine ⟨by omega, ?_⟩
      rw [show (x' - x).toNat = (x' - (x + 1)).toNat + 1 by omega, Nat.pow_succ, ← Nat.mul_assoc, hv]
      omega
  | case3 m x h0 h10 => exact ⟨m, x, rfl, .inr ⟨Int.le_refl _, by simp⟩⟩  -- no trailing zero

/-- r/8 = r·125/1000: `repr` drops trailing zeros, so the printed digits are padded back to three places -/
theorem fracDigits_spec : ∀ r < 8, (fracDigits r).all isDigit = true ∧ fracDigits r ≠ [] ∧
    (fracDigits r).length ≤ 3 ∧ digitsVal (fracDigits r) * 10 ^ (3 - (fracDigits r).length) = r * 125 := by
  decide +kernel

theorem isDigit_ne_minus {c : Char} (h : isDigit c = true) : c ≠ '-' := by
  rintro rfl; revert h; decide

/-! `splitNumeral` (the encoder's regex), `lexNumber` (celpy's value of a number token) and `numLen` (how far celpy's
number terminals reach) walk the same skeleton: sign, digits, fraction, exponent, and make the same tests on the
way.  So for the exponent and for the part after the integer digits one lemma walks the regex and, at each exit that
accepts, computes the other two readers on the same text: what the returned parts spell, the value celpy reads,
how far the tokenizer reaches before a separator. -/

theorem sepStart_expLen {rest : Str} (hs : sepStart rest) : expLen rest = 0 := by
  cases rest with
  | nil => rfl
  | cons c r => rcases sepStart_cons.mp hs with rfl | rfl | rfl | rfl <;> rfl

theorem splitExp_some {t : Str} {ex : Option (Char × Option Char × Str)} (h : splitExp t = some ex) :
    expText ex = t ∧ lexExp t = some (ex.map fun e => expVal (some e)) ∧
    ∀ {rest}, sepStart rest → expLen (t ++ rest) = t.length := by
  revert h
  fun_cases splitExp t
  case case1 =>  -- empty text
    rintro ⟨⟩
    exact ⟨rfl, rfl, sepStart_expLen⟩
  case case2 l hl => nofun  -- the letter alone
  case case3 l hl s t2 hs hd =>  -- letter, sign, digits
    rintro ⟨⟩
    refine ⟨rfl, by rcases hs with rfl | rfl <;> simp [lexExp, expVal, hl, hd], fun hr => ?_⟩
    have := (span_all hd.2 (sepStart_stops (by decide +kernel) hr)).1
    simp +arith [expLen, hl, hs, this, hd.1]
  case case4 l hl s t2 hs hd => nofun  -- letter, sign, no digits
  case case5 l hl s t2 hs hd =>  -- letter, digits
    rw [if_pos hd]
    rintro ⟨⟩
    rw [not_or] at hs
    refine ⟨rfl, by simp [lexExp, expVal, hl, hs, hd], fun hr => ?_⟩
    have := (span_all hd (sepStart_stops (by decide +kernel) hr)).1
    rw [List.cons_append] at this
    simp +arith [expLen, hl, hs, this]
  case case6 l hl s t2 hs hd => rw [if_neg hd]; nofun  -- letter, then neither sign nor digits
  case case7 l t1 hl => nofun  -- no letter

theorem numLenAfter_no_point {ip t : Str} (hip : ip ≠ []) (ht : ∀ r, t ≠ '.' :: r) :
    numLenAfter ip.length t = some (ip.length + expLen t) := by
  cases t with
  | nil => simp [numLenAfter, hip, expLen]
  | cons c r =>
    have hc : c ≠ '.' := fun e => ht r (e ▸ rfl)
    simp [numLenAfter, hip, hc]

theorem splitAfter_some {neg : Bool} {ip s2 : Str} {p : NumParts} (h : splitAfter neg ip s2 = some p) :
    ip ≠ [] ∧ p.text = (if neg then ['-'] else []) ++ ip ++ s2 ∧ lexAfter neg ip s2 = some p.value ∧
    ∀ {rest}, sepStart rest → numLenAfter ip.length (s2 ++ rest) = some (ip.length + s2.length) := by
  revert h
  fun_cases splitAfter neg ip s2
  case case1 hip => nofun  -- no integer digits
  case case2 hip =>  -- nothing after them
    rintro ⟨⟩
    refine ⟨hip, by simp [NumParts.text, fracText, expText], by simp [lexAfter, hip, NumParts.value], fun hs => ?_⟩
    rw [List.nil_append, numLenAfter_no_point hip (sepStart_ne hs (by decide)), sepStart_expLen hs]; rfl
  case case3 hip s3 hf => nofun  -- a point without digits
  case case4 hip s3 hf ex hex =>  -- point, digits, exponent part
    rintro ⟨⟩
    obtain ⟨ht, hx, hr⟩ := splitExp_some hex
    refine ⟨hip, by simp [NumParts.text, fracText, ht, List.takeWhile_append_dropWhile], ?_, fun hs => ?_⟩
    · cases ex <;> simp [lexAfter, hip, hx, NumParts.value, expVal]
    · have hsp := span_append isDigit s3 (sepStart_stops (by decide) hs)
      simp +arith [numLenAfter, hsp.1, hsp.2, hf, hr hs, ← length_span isDigit s3]
  case case5 hip s3 hf hex => nofun  -- point, digits, no exponent part
  case case6 hip c s3 hc ex hex =>  -- no point (the walk's own test `hc`), exponent part
    rw [hex]
    rintro ⟨⟩
    obtain ⟨ht, hx, hr⟩ := splitExp_some hex
    refine ⟨hip, by simp [NumParts.text, fracText, ht], ?_, fun hs => ?_⟩
    · cases ex with
      | none => cases ht
      | some e => simp [lexAfter, hc, hip, hx, NumParts.value]
    · rw [numLenAfter_no_point hip (by simp [hc]), hr hs]
  case case7 hip c s3 hc hex => rw [hex]; nofun  -- no point, no exponent part

theorem splitUnsigned_numLenAfter {neg : Bool} {body rest : Str} {p : NumParts}
    (h : splitUnsigned neg body = some p) (hs : sepStart rest) :
    numLenAfter ((body ++ rest).takeWhile isDigit).length ((body ++ rest).dropWhile isDigit)
      = some body.length := by
  have hsp := span_append isDigit body (sepStart_stops (by decide) hs)
  rw [hsp.1, hsp.2, (splitAfter_some h).2.2.2 hs, length_span]

/-- Hands on the test `c = '-'` itself, not the shape of `s`: `lexNumber` and `numLen` make the same test. -/
theorem splitNumeral_some {s : Str} {p : NumParts} (h : splitNumeral s = some p) :
    ∃ c r, s = c :: r ∧
      ((c = '-' ∧ splitUnsigned true r = some p) ∨ (c ≠ '-' ∧ splitUnsigned false s = some p)) := by
  revert h
  fun_cases splitNumeral s
  case case1 => nofun  -- empty text
  case case2 r => exact fun h => ⟨_, r, rfl, .inl ⟨rfl, h⟩⟩  -- `-` first
  case case3 c r hc => exact fun h => ⟨c, r, rfl, .inr ⟨hc, h⟩⟩

theorem isNumeral_iff {s : Str} : isNumeral s = true ↔ ∃ p, splitNumeral s = some p :=
  Option.isSome_iff_exists

theorem isNumeral_of_split {s : Str} {p : NumParts} (h : splitNumeral s = some p) : isNumeral s = true :=
  isNumeral_iff.mpr ⟨p, h⟩

theorem isNumeral_false_iff {s : Str} : isNumeral s = false ↔ splitNumeral s = none := by
  rw [isNumeral, Option.isSome_eq_false_iff, Option.isNone_iff_eq_none]

theorem splitNumeral_lexNumber {s : Str} {p : NumParts} (h : splitNumeral s = some p) :
    lexNumber s = some p.value := by
  obtain ⟨c, r, rfl, ⟨hc, h⟩ | ⟨hc, h⟩⟩ := splitNumeral_some h
  · rw [lexNumber, if_pos hc]; exact (splitAfter_some h).2.2.1
  · rw [lexNumber, if_neg hc]; exact (splitAfter_some h).2.2.1

theorem splitNumeral_text {s : Str} {p : NumParts} (h : splitNumeral s = some p) : p.text = s := by
  obtain ⟨c, r, rfl, ⟨rfl, h⟩ | ⟨_, h⟩⟩ := splitNumeral_some h
  all_goals rw [(splitAfter_some h).2.1, List.append_assoc, List.takeWhile_append_dropWhile]; rfl

theorem numLen_numeral (x rest : Str) (h : isNumeral x = true) (hs : sepStart rest) :
    numLen (x ++ rest) = some x.length := by
  obtain ⟨p, hp⟩ := isNumeral_iff.mp h
  obtain ⟨c, r, rfl, ⟨hc, hp⟩ | ⟨hc, hp⟩⟩ := splitNumeral_some hp
  · rw [List.cons_append, numLen, if_pos hc, splitUnsigned_numLenAfter hp hs]; rfl
  · rw [List.cons_append, numLen, if_neg hc]; exact splitUnsigned_numLenAfter hp hs

/-- The first character passes the test by which `litVal` and `nextTok` take a text for a number. -/
theorem isNumeral_head (s : Str) (h : isNumeral s = true) :
    ∃ c r, s = c :: r ∧ (c = '-' ∨ c = '.' ∨ isDigit c = true) := by
  obtain ⟨p, hp⟩ := isNumeral_iff.mp h
  obtain ⟨c, r, rfl, ⟨hc, _⟩ | ⟨_, hp⟩⟩ := splitNumeral_some hp
  · exact ⟨c, r, rfl, .inl hc⟩
  · -- the integer digits, taken from the front, are not empty
    exact ⟨c, r, rfl, .inr (.inr (Decidable.byContradiction fun hd =>
      (splitAfter_some hp).1 (List.takeWhile_cons_of_neg hd)))⟩

theorem splitNumeral_signed (P : Prop) [Decidable P] {ds tl : Str} (hd : ds.all isDigit = true) (hne : ds ≠ [])
    (ht : tl.takeWhile isDigit = []) :
    splitNumeral ((if P then ['-'] else []) ++ (ds ++ tl)) = splitAfter (decide P) ds tl := by
  have hsp := span_all hd ht
  obtain ⟨c, r, rfl⟩ := List.exists_cons_of_ne_nil hne
  have hc : c ≠ '-' := isDigit_ne_minus (List.all_eq_true.mp hd c List.mem_cons_self)
  rw [List.cons_append] at hsp
  by_cases hP : P <;> simp [splitNumeral, splitUnsigned, hc, hsp, hP]

theorem splitNumeral_renderInt (n : Int) :
    splitNumeral (renderInt n) = some ⟨decide (n < 0), renderNat n.natAbs, none, none⟩ := by
  obtain ⟨hd, hne, _⟩ := renderNat_spec n.natAbs
  have : renderInt n = (if n < 0 then ['-'] else []) ++ (renderNat n.natAbs ++ []) := by
    unfold renderInt; split <;> simp
  rw [this, splitNumeral_signed _ hd hne rfl]
  simp [splitAfter, hne]

theorem splitNumeral_renderFlt (e : Int) :
    splitNumeral (renderFlt e)
      = some ⟨decide (e < 0), renderNat (e.natAbs / 8), some (fracDigits (e.natAbs % 8)), none⟩ := by
  obtain ⟨hd, hne, _⟩ := renderNat_spec (e.natAbs / 8)
  obtain ⟨hf, hfne, _⟩ := fracDigits_spec (e.natAbs % 8) (Nat.mod_lt _ (by decide))
  rw [renderFlt, List.append_assoc, splitNumeral_signed _ hd hne rfl]
  simp [splitAfter, hne, takeWhile_all hf, dropWhile_all hf, hfne, splitExp]

theorem isNumeral_renderInt (n : Int) : isNumeral (renderInt n) = true :=
  isNumeral_of_split (splitNumeral_renderInt n)

theorem isNumeral_renderFlt (e : Int) : isNumeral (renderFlt e) = true :=
  isNumeral_of_split (splitNumeral_renderFlt e)

theorem lexNumber_renderInt (n : Int) : lexNumber (renderInt n) = some (.int n) := by
  rw [splitNumeral_lexNumber (splitNumeral_renderInt n)]
  simp only [NumParts.value, (renderNat_spec _).2.2, signed, decide_eq_true_eq]
  congr 2
  split <;> omega

theorem lexNumber_renderFlt (e : Int) :
    lexNumber (renderFlt e) = some (normDec (decide (e < 0)) (e.natAbs * 125) (-3)) := by
  obtain ⟨_, _, hlen, hval⟩ := fracDigits_spec (e.natAbs % 8) (Nat.mod_lt _ (by decide))
  generalize hq : e.natAbs / 8 = q at *
  generalize hf : fracDigits (e.natAbs % 8) = f at *
  -- pad the printed fraction `f` to three digits, `(q·10^len + f)·10^(3−len) = |e|·125`;
  -- `normDec_pow10` strips the padding again
  have hp : 10 ^ f.length * 10 ^ (3 - f.length) = 1000 := by rw [← Nat.pow_add, Nat.add_sub_cancel' hlen]
  have hm : (q * 10 ^ f.length + digitsVal f) * 10 ^ (3 - f.length) = e.natAbs * 125 := by
    rw [Nat.add_mul (q * _), Nat.mul_assoc q, hp, hval]; omega
  rw [splitNumeral_lexNumber (splitNumeral_renderFlt e), hq, hf]
  simp only [NumParts.value, Option.getD_some, expVal, digitsVal_append, (renderNat_spec q).2.2]
  rw [← hm, show (-3 : Int) = (0 - (f.length : Int)) - ((3 - f.length : Nat) : Int) by omega, normDec_pow10]

theorem decodeEscape_letter {l d : Char} (h : unescLetter l = some d) (t : Str) :
    decodeEscape (l :: t) = some (d, 1) := by
  simp [decodeEscape, h]

theorem escChar_cases (c : Char) :
    (escChar c = [c] ∧ c ≠ '\\' ∧ c ≠ '"' ∧ c ≠ '\n') ∨
    (∃ l, escChar c = ['\\', l] ∧ ∀ t, decodeEscape (l :: t) = some (c, 1)) := by
  fun_cases escChar c
  case case6 h1 h2 h3 _ _ => exact .inl ⟨rfl, h1, h2, h3⟩  -- written as it stands
  all_goals subst c  -- the five entries of `_STRING_ESCAPES`, in the order of `escChar`
  · exact .inr ⟨'\\', rfl, decodeEscape_letter rfl⟩
  · exact .inr ⟨'"', rfl, decodeEscape_letter rfl⟩
  · exact .inr ⟨'n', rfl, decodeEscape_letter rfl⟩
  · exact .inr ⟨'r', rfl, decodeEscape_letter rfl⟩
  · exact .inr ⟨'t', rfl, decodeEscape_letter rfl⟩

theorem scanShort_escChar (c : Char) (t : Str) : scanShort (escChar c ++ t) = consFst c (scanShort t) := by
  rcases escChar_cases c with ⟨he, h1, h2, h3⟩ | ⟨l, he, hl⟩
  · rw [he, List.singleton_append, scanShort]; simp [h1, h2, h3]
  · rw [he, List.cons_append, scanShort]; simp [hl]

theorem scanLong_escChar (c : Char) (t : Str) : scanLong (escChar c ++ t) = consFst c (scanLong t) := by
  rcases escChar_cases c with ⟨he, h1, h2, h3⟩ | ⟨l, he, hl⟩
  · rw [he, List.singleton_append, scanLong]; simp [h1, h2, h3]
  · rw [he, List.cons_append, scanLong]; simp [hl]

theorem scanShort_escBody (s rest : Str) : scanShort (escBody s ++ '"' :: rest) = some (s, rest) := by
  induction s with
  | nil => rw [escBody, List.nil_append, scanShort]; simp
  | cons c s ih => rw [escBody, List.append_assoc, scanShort_escChar, ih, consFst]

theorem scanLong_escBody (s rest : Str) :
    scanLong (escBody s ++ '"' :: '"' :: '"' :: rest) = some (s, rest) := by
  induction s with
  | nil => rw [escBody, List.nil_append, scanLong]; simp
  | cons c s ih => rw [escBody, List.append_assoc, scanLong_escChar, ih, consFst]

/-- `hr` is needed for the empty text: `""` with a quote after it would read as the opening of the long form. -/
theorem escBody_not_long (s rest : Str) (hr : ∀ r, rest ≠ '"' :: r) :
    (escBody s ++ '"' :: rest).take 2 ≠ ['"', '"'] := by
  cases s with
  | nil =>
    cases rest with
    | nil => simp [escBody]
    | cons c r => simpa [escBody] using fun e : c = '"' => hr r (e ▸ rfl)
  | cons c s =>
    rcases escChar_cases c with ⟨he, _, h2, _⟩ | ⟨l, he, _⟩
    · simp [escBody, he, h2]
    · simp [escBody, he]

/-- The `if` is the dispatch that `lexString` and `strLen` both make on the text after the opening quote, so
    the one lemma serves the parser's and the tokenizer's reading of a literal. -/
theorem scan_quoteStr (s rest : Str) (hr : ∀ r, rest ≠ '"' :: r) : ∃ b, quoteStr s = '"' :: b ∧
    (if (b ++ rest).take 2 = ['"', '"'] then scanLong ((b ++ rest).drop 2) else scanShort (b ++ rest))
      = some (s, rest) := by
  fun_cases quoteStr s
  case case1 => exact ⟨_, rfl, by simpa using scanLong_escBody s rest⟩  -- the long form
  case case2 =>  -- the short form
    refine ⟨_, rfl, ?_⟩
    rw [List.append_assoc, List.singleton_append, if_neg (escBody_not_long s rest hr)]
    exact scanShort_escBody s rest

theorem quoteStr_head (s : Str) : ∃ b, quoteStr s = '"' :: b :=
  (scan_quoteStr s [] nofun).imp fun _ h => h.1

theorem lexString_quoteStr (s : Str) : lexString (quoteStr s) = some s := by
  obtain ⟨b, hb, h⟩ := scan_quoteStr s [] nofun
  rw [List.append_nil] at h
  rw [hb, lexString, if_pos rfl, ← apply_ite whole, h, whole]

theorem lexNumber_quoteStr (s : Str) : lexNumber (quoteStr s) = none := by
  obtain ⟨r, hr⟩ := quoteStr_head s
  rw [hr]
  -- the text starts with `"`: no sign, no digit, so `ip = []`, and what follows is no point: `lexAfter` answers `none`
  simp [lexNumber, lexUnsigned, lexAfter, isDigit]

theorem encodeStr_of_numeral {s : Str} (hn : isNumeral s = true) : encodeStr s = s := by
  simp [encodeStr, hn]

theorem encodeStr_of_nonnumeral (s : Str) (hn : isNumeral s = false) (he : startsWithEq s = false) :
    encodeStr s = quoteStr s := by
  unfold encodeStr
  simp only [hn, he, Bool.false_eq_true, if_false]
  split
  next h => subst h; rfl
  · rfl

theorem toksText_append (a b : List Tok) : toksText (a ++ b) = toksText a ++ toksText b := by
  simp [toksText, List.flatMap_append]

theorem toksText_cons (t : Tok) (ts : List Tok) : toksText (t :: ts) = t.text ++ toksText ts := by
  simp [toksText, List.flatMap_cons]

theorem toksText_lit (t : Str) : toksText [.lit t] = t := by
  simp [toksText, Tok.text]

mutual
theorem toksText_toks : ∀ v : JVal, toksText (toks v) = enc v
  | .null => toksText_lit _
  | .bool _ => toksText_lit _
  | .int _ => toksText_lit _
  | .flt _ => toksText_lit _
  | .str _ => toksText_lit _
  | .arr [] => rfl
  | .arr (x :: xs) => by
    simp only [toks, enc, toksText_cons, toksText_append, Tok.text, toksText_toks x, toksText_toksTail xs]
    simp [toksText]
  | .obj [] => rfl
  | .obj ((k, v) :: kvs) => by
    simp only [toks, enc, toksText_cons, toksText_append, Tok.text, toksText_toks v, toksText_toksTailO kvs]
    simp [toksText]
theorem toksText_toksTail : ∀ xs : List JVal, toksText (toksTail xs) = encTail xs
  | [] => rfl
  | x :: xs => by
    simp only [toksTail, encTail, toksText_cons, toksText_append, Tok.text, toksText_toks x, toksText_toksTail xs]
    simp
theorem toksText_toksTailO : ∀ kvs : List (String × JVal), toksText (toksTailO kvs) = encTailO kvs
  | [] => rfl
  | (k, v) :: kvs => by
    simp only [toksTailO, encTailO, toksText_cons, toksText_append, Tok.text, toksText_toks v, toksText_toksTailO kvs]
    simp
end

theorem litVal_numeral {s : Str} (h : isNumeral s = true) : litVal s = (lexNumber s).map .num := by
  obtain ⟨c, r, rfl, hc⟩ := isNumeral_head s h
  have hq : c ≠ '"' := by rintro rfl; revert hc; decide
  simp [litVal, hq, hc]

theorem litVal_renderInt (n : Int) : litVal (renderInt n) = some (.num (.int n)) := by
  rw [litVal_numeral (isNumeral_renderInt n), lexNumber_renderInt]; rfl

theorem litVal_renderFlt (e : Int) :
    litVal (renderFlt e) = some (.num (normDec (decide (e < 0)) (e.natAbs * 125) (-3))) := by
  rw [litVal_numeral (isNumeral_renderFlt e), lexNumber_renderFlt]; rfl

theorem litVal_quoteStr (s : Str) : litVal (quoteStr s) = some (.str s) := by
  obtain ⟨r, hr⟩ := quoteStr_head s
  have := lexString_quoteStr s
  rw [hr] at this ⊢
  simp [litVal, this]

theorem litVal_encodeStr (s : Str) (he : startsWithEq s = false) :
    litVal (encodeStr s) = some (numeraliseStr s) := by
  cases hp : splitNumeral s with
  | some p =>
    have hn := isNumeral_of_split hp
    rw [encodeStr_of_numeral hn, litVal_numeral hn, splitNumeral_lexNumber hp]
    simp [numeraliseStr, hp]
  | none =>
    have hn := isNumeral_false_iff.mpr hp
    rw [encodeStr_of_nonnumeral s hn he, litVal_quoteStr]
    simp [numeraliseStr, hp]

theorem toks_length_pos : ∀ v : JVal, 1 ≤ (toks v).length
  | .null | .bool _ | .int _ | .flt _ | .str _ | .arr [] | .arr (_ :: _) | .obj [] | .obj ((_, _) :: _) =>
    Nat.succ_le_succ (Nat.zero_le _)

theorem pVal_lit {f : Nat} {x : Str} {v : CVal} {ts : List Tok} (h : litVal x = some v) :
    pVal (f + 1) (.lit x :: ts) = some (v, ts) := by
  simp [pVal, h]

theorem pVal_arr {f : Nat} {ts r1 r2 : List Tok} {v : CVal} {vs : List CVal}
    (hv : pVal f ts = some (v, r1)) (ht : pTail f r1 = some (vs, r2)) :
    pVal (f + 1) (.lbrack :: ts) = some (.arr (v :: vs), r2) := by
  rw [pVal, hv]
  · simp only [ht]
  · -- `pVal` takes this branch when `ts` does not start with `]`; on such a text `hv` would have failed
    rintro r rfl
    cases f <;> cases hv

theorem pTail_comma {f : Nat} {ts r1 r2 : List Tok} {v : CVal} {vs : List CVal}
    (hv : pVal f ts = some (v, r1)) (ht : pTail f r1 = some (vs, r2)) :
    pTail (f + 1) (.comma :: ts) = some (v :: vs, r2) := by
  simp [pTail, hv, ht]

theorem pEntry_quoteStr {f : Nat} {ts r : List Tok} {v : CVal} (k : Str) (hv : pVal f ts = some (v, r)) :
    pEntry (f + 1) (.lit (quoteStr k) :: .colon :: ts) = some ((k, v), r) := by
  simp [pEntry, lexString_quoteStr, hv]

theorem pVal_obj {f : Nat} {x : Str} {ts r1 r2 : List Tok} {kv : Str × CVal} {kvs : List (Str × CVal)}
    (he : pEntry f (.lit x :: ts) = some (kv, r1)) (ht : pTailO f r1 = some (kvs, r2)) :
    pVal (f + 1) (.lbrace :: .lit x :: ts) = some (.obj (kv :: kvs), r2) := by
  simp [pVal, he, ht]

theorem pTailO_comma {f : Nat} {ts r1 r2 : List Tok} {kv : Str × CVal} {kvs : List (Str × CVal)}
    (he : pEntry f ts = some (kv, r1)) (ht : pTailO f r1 = some (kvs, r2)) :
    pTailO (f + 1) (.comma :: ts) = some (kv :: kvs, r2) := by
  simp [pTailO, he, ht]

mutual
/-- The fuel only has to cover the tokens: every call consumes one; an entry `"k" : v` spends two units
    (`pEntry`, then `pVal`) on at least three tokens. -/
theorem pVal_toks : ∀ (v : JVal), noExpr v = true → ∀ (f : Nat) (rest : List Tok), (toks v).length ≤ f →
    pVal f (toks v ++ rest) = some (numeralise v, rest)
  | v, _, 0, _, hf => absurd hf (by have := toks_length_pos v; omega)
  | .null, _, _ + 1, _, _ => pVal_lit rfl
  | .bool true, _, _ + 1, _, _ => pVal_lit rfl
  | .bool false, _, _ + 1, _, _ => pVal_lit rfl
  | .int n, _, _ + 1, _, _ => pVal_lit (litVal_renderInt n)
  | .flt e, _, _ + 1, _, _ => pVal_lit (litVal_renderFlt e)
  | .str s, hne, _ + 1, _, _ => pVal_lit (litVal_encodeStr _ (by simpa [noExpr] using hne))
  | .arr [], _, _ + 1, _, _ => by simp [toks, pVal, numeralise, numeraliseL]
  | .arr (x :: xs), hne, g + 1, rest, hf => by
    simp only [noExpr, noExprL, Bool.and_eq_true] at hne
    simp only [toks, List.length_cons, List.length_append, List.length_nil] at hf
    simp only [toks, List.cons_append, List.append_assoc, List.nil_append, numeralise, numeraliseL]
    exact pVal_arr (pVal_toks x hne.1 g _ (by omega)) (pTail_toks xs hne.2 g rest (by omega))
  | .obj [], _, _ + 1, _, _ => by simp [toks, pVal, numeralise, numeraliseO]
  | .obj ((k, v) :: kvs), hne, g + 1, rest, hf => by
    simp only [noExpr, noExprO, Bool.and_eq_true] at hne
    simp only [toks, List.length_cons, List.length_append, List.length_nil] at hf
    simp only [toks, List.cons_append, List.append_assoc, List.nil_append, numeralise, numeraliseO]
    obtain ⟨g', rfl⟩ : ∃ g', g = g' + 1 := ⟨g - 1, by omega⟩
    exact pVal_obj (pEntry_quoteStr _ (pVal_toks v hne.1 g' _ (by omega)))
      (pTailO_toks kvs hne.2 (g' + 1) rest (by omega))
theorem pTail_toks : ∀ (xs : List JVal), noExprL xs = true → ∀ (f : Nat) (rest : List Tok),
    (toksTail xs).length + 1 ≤ f →
    pTail f (toksTail xs ++ .rbrack :: rest) = some (numeraliseL xs, rest)
  | _, _, 0, _, hf => absurd hf (by omega)
  | [], _, _ + 1, _, _ => by simp [toksTail, pTail, numeraliseL]
  | x :: xs, hne, g + 1, rest, hf => by
    simp only [noExprL, Bool.and_eq_true] at hne
    simp only [toksTail, List.length_cons, List.length_append] at hf
    simp only [toksTail, List.cons_append, List.append_assoc, numeraliseL]
    exact pTail_comma (pVal_toks x hne.1 g _ (by omega)) (pTail_toks xs hne.2 g rest (by omega))
theorem pTailO_toks : ∀ (kvs : List (String × JVal)), noExprO kvs = true → ∀ (f : Nat) (rest : List Tok),
    (toksTailO kvs).length + 1 ≤ f →
    pTailO f (toksTailO kvs ++ .rbrace :: rest) = some (numeraliseO kvs, rest)
  | _, _, 0, _, hf => absurd hf (by omega)
  | [], _, _ + 1, _, _ => by simp [toksTailO, pTailO, numeraliseO]
  | (k, v) :: kvs, hne, g + 1, rest, hf => by
    simp only [noExprO, Bool.and_eq_true] at hne
    simp only [toksTailO, List.length_cons, List.length_append] at hf
    simp only [toksTailO, List.cons_append, List.append_assoc, numeraliseO]
    obtain ⟨g', rfl⟩ : ∃ g', g = g' + 1 := ⟨g - 1, by omega⟩
    exact pTailO_comma (pEntry_quoteStr _ (pVal_toks v hne.1 g' _ (by omega)))
      (pTailO_toks kvs hne.2 (g' + 1) rest (by omega))
end

theorem nextTok_numeral (x rest : Str) (h : isNumeral x = true) (hs : sepStart rest) :
    nextTok (x ++ rest) = some (.lit x, x.length) := by
  obtain ⟨c, r, hx, hc⟩ := isNumeral_head x h
  have hn := numLen_numeral x rest h hs
  have htake : (x ++ rest).take x.length = x := by simp
  subst hx
  simp only [List.cons_append] at hn htake ⊢
  simp only [nextTok, hc, if_true, hn, htake]

theorem nextTok_quoteStr (s rest : Str) (hs : sepStart rest) :
    nextTok (quoteStr s ++ rest) = some (.lit (quoteStr s), (quoteStr s).length) := by
  obtain ⟨b, hb, h⟩ := scan_quoteStr s rest (sepStart_ne hs (by decide))
  have hlen : strLen (b ++ rest) = some (quoteStr s).length := by
    rw [hb, strLen]
    split at h
    next hc => rw [if_pos hc, h]; simp only [List.length_cons, List.length_append, Option.some.injEq]; omega
    next hc => rw [if_neg hc, h]; simp only [List.length_cons, List.length_append, Option.some.injEq]; omega
  rw [hb] at hlen ⊢
  simp [nextTok, isDigit, hlen]

theorem nextTok_word (w rest : Str) (hw : w = nullText ∨ w = trueText ∨ w = falseText) (hs : sepStart rest) :
    nextTok (w ++ rest) = some (.lit w, w.length) := by
  have hall : w.all isIdentChar = true := by rcases hw with rfl | rfl | rfl <;> decide +kernel
  have hsp : (w ++ rest).takeWhile isIdentChar = w := (span_all hall (sepStart_stops (by decide +kernel) hs)).1
  obtain ⟨c, w', rfl, hn, hq, hi⟩ : ∃ c w', w = c :: w' ∧
      ¬(c = '-' ∨ c = '.' ∨ isDigit c = true) ∧ c ≠ '"' ∧ isIdentStart c = true := by
    rcases hw with rfl | rfl | rfl <;> exact ⟨_, _, rfl, by decide +kernel, by decide +kernel, by decide +kernel⟩
  rw [List.cons_append] at hsp ⊢
  simp only [nextTok, if_neg hn, if_neg hq, if_pos hi, hsp, if_pos hw]

theorem nextTok_ws {c : Char} (h : isWs c = true) (r : Str) : nextTok (c :: r) = none := by
  have : (((c = ' ' ∨ c = '\t') ∨ c = '\n') ∨ c = '\r') ∨ c = Char.ofNat 12 := by simpa [isWs] using h
  rcases this with (((rfl | rfl) | rfl) | rfl) | rfl <;> rfl

theorem tokenize_tok {x rest : Str} {tok : Tok} (hx : x ≠ []) (h : nextTok (x ++ rest) = some (tok, x.length)) :
    tokenize (x ++ rest) = consTok tok (tokenize rest) := by
  obtain ⟨c, x', rfl⟩ := List.exists_cons_of_ne_nil hx
  rw [List.cons_append] at h ⊢
  have hws : isWs c = false := by
    cases hw : isWs c
    · rfl
    · rw [nextTok_ws hw] at h; cases h
  rw [tokenize]
  simp [hws, h]

theorem tokenize_punct (c : Char) (tok : Tok)
    (h : (c, tok) ∈ [('[', Tok.lbrack), (']', .rbrack), ('{', .lbrace), ('}', .rbrace), (',', .comma), (':', .colon)])
    (rest : Str) : tokenize (c :: rest) = consTok tok (tokenize rest) := by
  have hn : nextTok ([c] ++ rest) = some (tok, [c].length) := by
    simp only [List.mem_cons, Prod.mk.injEq, List.not_mem_nil, or_false] at h
    rcases h with ⟨rfl, rfl⟩ | ⟨rfl, rfl⟩ | ⟨rfl, rfl⟩ | ⟨rfl, rfl⟩ | ⟨rfl, rfl⟩ | ⟨rfl, rfl⟩ <;> rfl
  exact tokenize_tok (List.cons_ne_nil _ _) hn

theorem tokenize_numeral (x rest : Str) (h : isNumeral x = true) (hs : sepStart rest) :
    tokenize (x ++ rest) = consTok (.lit x) (tokenize rest) := by
  obtain ⟨c, r, rfl, _⟩ := isNumeral_head x h
  exact tokenize_tok (List.cons_ne_nil _ _) (nextTok_numeral _ rest h hs)

theorem tokenize_quoteStr (s rest : Str) (hs : sepStart rest) :
    tokenize (quoteStr s ++ rest) = consTok (.lit (quoteStr s)) (tokenize rest) := by
  obtain ⟨b, hb⟩ := quoteStr_head s
  exact tokenize_tok (hb ▸ List.cons_ne_nil _ _) (nextTok_quoteStr s rest hs)

theorem tokenize_word (w rest : Str) (hw : w = nullText ∨ w = trueText ∨ w = falseText) (hs : sepStart rest) :
    tokenize (w ++ rest) = consTok (.lit w) (tokenize rest) :=
  tokenize_tok (by rcases hw with rfl | rfl | rfl <;> exact List.cons_ne_nil _ _) (nextTok_word w rest hw hs)

theorem tokenize_encodeStr (s rest : Str) (he : startsWithEq s = false) (hs : sepStart rest) :
    tokenize (encodeStr s ++ rest) = consTok (.lit (encodeStr s)) (tokenize rest) := by
  cases hn : isNumeral s with
  | true =>
    rw [encodeStr_of_numeral hn]; exact tokenize_numeral s rest hn hs
  | false =>
    rw [encodeStr_of_nonnumeral s hn he]; exact tokenize_quoteStr s rest hs

theorem sepStart_encTail (xs : List JVal) (rest : Str) : sepStart (encTail xs ++ ']' :: rest) := by
  cases xs <;> exact sepStart_cons.mpr (by decide)

theorem sepStart_encTailO (kvs : List (String × JVal)) (rest : Str) : sepStart (encTailO kvs ++ '}' :: rest) := by
  cases kvs <;> exact sepStart_cons.mpr (by decide)

/-- The model's `consTok` for a list of tokens (`consTok_eq`).  The same function as `Option.map (ts ++ ·)`, spelt as
    a match like `consTok` so that the two unfold alike under `cases o`. -/
def appToks (ts : List Tok) : Option (List Tok) → Option (List Tok)
  | some r => some (ts ++ r)
  | none => none

theorem appToks_nil (o : Option (List Tok)) : appToks [] o = o := by cases o <;> rfl
theorem appToks_cons (t : Tok) (ts : List Tok) (o : Option (List Tok)) :
    appToks (t :: ts) o = consTok t (appToks ts o) := by cases o <;> rfl
theorem appToks_append (a b : List Tok) (o : Option (List Tok)) :
    appToks (a ++ b) o = appToks a (appToks b o) := by cases o <;> simp [appToks]
theorem consTok_eq (t : Tok) (o : Option (List Tok)) : consTok t o = appToks [t] o := by cases o <;> rfl

mutual
theorem tokenize_enc : ∀ (v : JVal), noExpr v = true → ∀ (rest : Str), sepStart rest →
    tokenize (enc v ++ rest) = appToks (toks v) (tokenize rest)
  | .null, _, rest, hs => (tokenize_word _ rest (.inl rfl) hs).trans (consTok_eq _ _)
  | .bool true, _, rest, hs => (tokenize_word _ rest (.inr (.inl rfl)) hs).trans (consTok_eq _ _)
  | .bool false, _, rest, hs => (tokenize_word _ rest (.inr (.inr rfl)) hs).trans (consTok_eq _ _)
  | .int n, _, rest, hs => (tokenize_numeral _ rest (isNumeral_renderInt n) hs).trans (consTok_eq _ _)
  | .flt e, _, rest, hs => (tokenize_numeral _ rest (isNumeral_renderFlt e) hs).trans (consTok_eq _ _)
  | .str s, hne, rest, hs =>
    (tokenize_encodeStr _ rest (by simpa [noExpr] using hne) hs).trans (consTok_eq _ _)
  | .arr [], _, rest, _ => by
    simp only [enc, toks, List.cons_append, List.nil_append, appToks_cons, appToks_nil]
    rw [tokenize_punct '[' .lbrack (by decide +kernel), tokenize_punct ']' .rbrack (by decide +kernel)]
  | .arr (x :: xs), hne, rest, _ => by
    simp only [noExpr, noExprL, Bool.and_eq_true] at hne
    simp only [enc, toks, List.cons_append, List.append_assoc, List.nil_append, appToks_cons, appToks_append, appToks_nil]
    rw [tokenize_punct '[' .lbrack (by decide +kernel),
      tokenize_enc x hne.1 _ (sepStart_encTail xs rest), tokenize_encTail xs hne.2 rest,
      tokenize_punct ']' .rbrack (by decide +kernel)]
  | .obj [], _, rest, _ => by
    simp only [enc, toks, List.cons_append, List.nil_append, appToks_cons, appToks_nil]
    rw [tokenize_punct '{' .lbrace (by decide +kernel),
      tokenize_punct '}' .rbrace (by decide +kernel)]
  | .obj ((k, v) :: kvs), hne, rest, _ => by
    simp only [noExpr, noExprO, Bool.and_eq_true] at hne
    simp only [enc, toks, List.cons_append, List.append_assoc, List.nil_append, appToks_cons, appToks_append, appToks_nil]
    rw [tokenize_punct '{' .lbrace (by decide +kernel),
      tokenize_quoteStr _ _ (sepStart_cons.mpr (by decide +kernel)),
      tokenize_punct ':' .colon (by decide +kernel),
      tokenize_enc v hne.1 _ (sepStart_encTailO kvs rest), tokenize_encTailO kvs hne.2 rest,
      tokenize_punct '}' .rbrace (by decide +kernel)]
theorem tokenize_encTail : ∀ (xs : List JVal), noExprL xs = true → ∀ (rest : Str),
    tokenize (encTail xs ++ ']' :: rest) = appToks (toksTail xs) (tokenize (']' :: rest))
  | [], _, rest => by simp [encTail, toksTail, appToks_nil]
  | x :: xs, hne, rest => by
    simp only [noExprL, Bool.and_eq_true] at hne
    simp only [encTail, toksTail, List.cons_append, List.append_assoc, appToks_cons, appToks_append]
    rw [tokenize_punct ',' .comma (by decide +kernel),
      tokenize_enc x hne.1 _ (sepStart_encTail xs rest), tokenize_encTail xs hne.2 rest]
theorem tokenize_encTailO : ∀ (kvs : List (String × JVal)), noExprO kvs = true → ∀ (rest : Str),
    tokenize (encTailO kvs ++ '}' :: rest) = appToks (toksTailO kvs) (tokenize ('}' :: rest))
  | [], _, rest => by simp [encTailO, toksTailO, appToks_nil]
  | (k, v) :: kvs, hne, rest => by
    simp only [noExprO, Bool.and_eq_true] at hne
    simp only [encTailO, toksTailO, List.cons_append, List.append_assoc, appToks_cons, appToks_append]
    rw [tokenize_punct ',' .comma (by decide +kernel),
      tokenize_quoteStr _ _ (sepStart_cons.mpr (by decide +kernel)),
      tokenize_punct ':' .colon (by decide +kernel),
      tokenize_enc v hne.1 _ (sepStart_encTailO kvs rest), tokenize_encTailO kvs hne.2 rest]
end

end Koreo.Encoder
