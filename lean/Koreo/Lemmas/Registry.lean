/-
  C17: the subscription registry of `Koreo/Registry.lean`.  Three ideas carry the proofs.  Every subscription
  operation re-wires the out-edges of ONE subscriber: the graph stays acyclic if none of the new targets reaches the
  subscriber (`acyclic_rewire`), and the two views stay inverse and duplicate-free when the other view is updated by the
  two loops of `subscribe_only_to` (`MapsGood.rewire`).  The levels the cycle check walks are the end points of the paths
  of 0, 1, 2 … edges; in an acyclic graph a path has at most as many edges as there are nodes (`PathN.le_length`), which
  is where the fuel comes from.  With both queue exceptions caught the delivery loop puts once into the queue of each
  live subscriber and never raises (`deliver_spec`).  `Good` is the invariant, `Answer` what an operation can answer.
  Core Lean only.
-/
import Koreo.Registry

namespace Koreo.Registry

namespace Assoc
variable {β : Type}

@[simp] theorem find_set (m : Assoc β) (k k' : Res) (v : β) :
    (m.set k v).find? k' = if k = k' then some v else m.find? k' := by
  fun_induction set m k v with
  | case1 k v => simp [find?]
  | case2 v' m k v => by_cases h : k = k' <;> simp [find?, h]   -- the head holds `k`
  | case3 k0 v' m k v hk ih =>   -- the head holds another key
    simp only [find?, ih]
    by_cases h : k = k'
    · subst h; simp [hk]
    · simp [h]

@[simp] theorem find_del (m : Assoc β) (k k' : Res) :
    (m.del k).find? k' = if k = k' then none else m.find? k' := by
  fun_induction del m k with
  | case1 => simp [find?]
  | case2 v m k ih => rw [ih]; by_cases h : k = k' <;> simp [find?, h]   -- the head holds `k`
  | case3 k0 v m k hk ih =>   -- the head holds another key
    simp only [find?, ih]
    by_cases h : k = k'
    · subst h; simp [hk]
    · simp [h]

theorem del_of_find_none {m : Assoc β} {k : Res} (h : m.find? k = none) : m.del k = m := by
  fun_induction del m k with
  | case1 => rfl
  | case2 v m k ih => simp [find?] at h   -- the head holds `k`: it is not missing
  | case3 k0 v m k hk ih => rw [ih (by simpa [find?, hk] using h)]

end Assoc

@[simp] theorem Map.get_set (m : Map) (k k' : Res) (v : List Res) :
    Map.get (Assoc.set m k v) k' = if k = k' then v else Map.get m k' := by
  unfold Map.get; rw [Assoc.find_set]; split <;> rfl

theorem Map.get_nil (k : Res) : Map.get [] k = [] := rfl

@[simp] theorem mem_ins {x y : Res} {l : List Res} : y ∈ ins x l ↔ y = x ∨ y ∈ l := by
  fun_cases ins x l
  next h => exact ⟨Or.inr, fun h' => h'.elim (· ▸ h) id⟩   -- `x` is there already
  next => simp [or_comm]

theorem nodup_ins {x : Res} {l : List Res} (h : l.Nodup) : (ins x l).Nodup := by
  unfold ins; split
  · exact h
  · next hx =>
    refine List.nodup_append.2 ⟨h, by simp, fun a ha b hb e => ?_⟩
    rw [List.mem_singleton.1 hb] at e
    exact hx (e ▸ ha)

@[simp] theorem mem_rem {x y : Res} {l : List Res} : y ∈ rem x l ↔ y ∈ l ∧ y ≠ x := by
  simp [rem]

theorem nodup_rem {x : Res} {l : List Res} (h : l.Nodup) : (rem x l).Nodup := h.filter _

theorem ins_ins (x : Res) (l : List Res) : ins x (ins x l) = ins x l := by
  rw [ins, if_pos (mem_ins.2 (.inl rfl))]

theorem rem_rem (x : Res) (l : List Res) : rem x (rem x l) = rem x l := by
  simp [rem, List.filter_filter]

theorem nodup_ite {c : Prop} [Decidable c] {l l' : List Res} (h : l.Nodup) (h' : l'.Nodup) :
    (if c then l else l').Nodup := by
  split <;> assumption

@[simp] theorem mem_dedup {x : Res} {l : List Res} : x ∈ dedup l ↔ x ∈ l := by
  fun_induction dedup l with
  | case1 => simp
  -- `y` occurs again later: this occurrence is dropped
  | case2 y ys h ih => exact ⟨fun hx => List.mem_cons_of_mem _ (ih.1 hx), fun hx => (List.mem_cons.1 hx).elim (· ▸ h) ih.2⟩
  | case3 y ys h ih => simp [ih]

theorem nodup_dedup (l : List Res) : (dedup l).Nodup := by
  fun_induction dedup l with
  | case1 => exact List.nodup_nil
  | case2 y ys h ih => exact ih   -- `y` occurs again later and is dropped
  | case3 y ys h ih => exact List.nodup_cons.mpr ⟨h, ih⟩

section Graph
variable {α : Type}

inductive Reach (E : α → α → Prop) : α → α → Prop
  | refl (a : α) : Reach E a a
  | tail {a b c : α} : Reach E a b → E b c → Reach E a c

/-- at least one edge; `Reach` allows none -/
inductive Path (E : α → α → Prop) : α → α → Prop
  | single {a b : α} : E a b → Path E a b
  | tail {a b c : α} : Path E a b → E b c → Path E a c

/-- grown at its start, where `Reach` and `Path` grow at their end: the cycle check steps from a level to its
    successors -/
inductive PathN (E : α → α → Prop) : Nat → α → α → Prop
  | zero (a : α) : PathN E 0 a a
  | succ {n : Nat} {a b c : α} : E a b → PathN E n b c → PathN E (n + 1) a c

def Acyclic (E : α → α → Prop) : Prop := ∀ a, ¬ Path E a a

variable {E E' : α → α → Prop}

theorem Reach.trans {a b c : α} (h1 : Reach E a b) (h2 : Reach E b c) : Reach E a c := by
  induction h2 with
  | refl => exact h1
  | tail _ e ih => exact .tail ih e

theorem Path.toReach {a b : α} (h : Path E a b) : Reach E a b := by
  induction h with
  | single e => exact .tail (.refl _) e
  | tail _ e ih => exact .tail ih e

theorem Reach.toPath {a b c : α} (h : Reach E a b) (e : E b c) : Path E a c := by
  induction h generalizing c with
  | refl => exact .single e
  | tail _ e' ih => exact .tail (ih e') e

theorem Path.of_reach_path {a b c : α} (h1 : Reach E a b) (h2 : Path E b c) : Path E a c := by
  induction h2 with
  | single e => exact h1.toPath e
  | tail _ e ih => exact .tail ih e

theorem Path.of_edge_reach {a b c : α} (e : E a b) (h : Reach E b c) : Path E a c := by
  induction h with
  | refl => exact .single e
  | tail _ e' ih => exact .tail ih e'

theorem Acyclic.not_reach (hac : Acyclic E) {a b : α} (e : E a b) : ¬ Reach E b a :=
  fun hr => hac a (Path.of_edge_reach e hr)

theorem PathN.toReach {n : Nat} {a b : α} (h : PathN E n a b) : Reach E a b := by
  induction h with
  | zero => exact .refl _
  | succ e _ ih => exact (Path.of_edge_reach e ih).toReach

theorem PathN.snoc {n : Nat} {a b c : α} (h : PathN E n a b) (e : E b c) : PathN E (n + 1) a c := by
  induction h with
  | zero => exact .succ e (.zero _)
  | succ e' _ ih => exact .succ e' (ih e)

theorem Reach.toPathN {a b : α} (h : Reach E a b) : ∃ n, PathN E n a b := by
  induction h with
  | refl => exact ⟨0, .zero _⟩
  | tail _ e ih => obtain ⟨n, hn⟩ := ih; exact ⟨n + 1, hn.snoc e⟩

theorem acyclic_rewire (sub : α) (new : α → Prop)
    (hE' : ∀ x y, E' x y → (x ≠ sub ∧ E x y) ∨ (x = sub ∧ new y))
    (hac : Acyclic E) (hnew : ∀ r, new r → ¬ Reach E r sub) : Acyclic E' := by
  -- a new path is an old path, or it runs in the old graph up to `sub` and from a new target on
  have key : ∀ {x y}, Path E' x y → Path E x y ∨ (Reach E x sub ∧ ∃ r, new r ∧ Reach E r y) := by
    intro x y p
    induction p with
    | single e =>
      rcases hE' _ _ e with ⟨_, e⟩ | ⟨rfl, hn⟩
      · exact .inl (.single e)
      · exact .inr ⟨.refl _, _, hn, .refl _⟩
    | tail _ e ih =>
      rcases hE' _ _ e with ⟨_, e⟩ | ⟨rfl, hn⟩
      · exact ih.imp (.tail · e) fun ⟨hx, r, hr, hre⟩ => ⟨hx, r, hr, .tail hre e⟩
      · exact .inr ⟨ih.elim Path.toReach (·.1), _, hn, .refl _⟩
  intro a p
  rcases key p with p' | ⟨has, r, hr, hra⟩
  · exact hac a p'
  · exact hnew r hr (hra.trans has)

theorem PathN.le_length {V : List α} (hac : Acyclic E) (hV : ∀ x y, E x y → y ∈ V)
    {n : Nat} {a b : α} (h : PathN E n a b) : n ≤ V.length := by
  -- pigeonhole on the nodes the path enters: all lie in `V`, and they are distinct, since each is reached from the
  -- start by at least one edge and the path goes on from the first of them, so a repetition would be a cycle
  obtain ⟨l, hl, hn, hv, -⟩ :
      ∃ l : List α, l.length = n ∧ l.Nodup ∧ (∀ x ∈ l, x ∈ V) ∧ (∀ x ∈ l, Path E a x) := by
    induction h with
    | zero => exact ⟨[], rfl, List.nodup_nil, by simp, by simp⟩
    | @succ n a b c e _ ih =>
      obtain ⟨l, hl, hn, hv, hp⟩ := ih
      exact ⟨b :: l, by simp [hl], List.nodup_cons.mpr ⟨fun hb => hac b (hp b hb), hn⟩,
        List.forall_mem_cons.2 ⟨hV _ _ e, hv⟩,
        List.forall_mem_cons.2 ⟨.single e, fun x hx => .of_edge_reach e (hp x hx).toReach⟩⟩
  exact hl ▸ hn.length_le_of_subset hv

end Graph

section Check
variable {E : Res → Res → Prop} {succ : Res → List Res}

/-- Stated for a level of the form `dedup R`: every level the loop builds is again of that form, so paths are counted
    from the current level and no level index is carried along. -/
theorem checkLoop_spec (hs : ∀ x y, y ∈ succ x ↔ E x y) (sub : Res) (fuel : Nat) : ∀ R : List Res,
    (checkLoop succ sub fuel (dedup R) = .cycle ↔ ∃ j, j < fuel ∧ ∃ r ∈ R, PathN E j r sub) ∧
    ∀ j, j < fuel → (∀ r ∈ R, ∀ x, ¬ PathN E j r x) → checkLoop succ sub fuel (dedup R) ≠ .outOfFuel := by
  induction fuel with
  | zero => intro R; exact ⟨⟨fun h => (by cases h), fun ⟨j, hj, _⟩ => (by omega)⟩, fun j hj => (by omega)⟩
  | succ f ih =>
    intro R
    have hnext : ∀ y, y ∈ (dedup R).flatMap succ ↔ ∃ r ∈ R, E r y := fun y => by
      simp only [List.mem_flatMap, mem_dedup, hs]
    unfold checkLoop
    by_cases hne : (dedup R).isEmpty
    · have hR : ∀ r, r ∉ R := fun r hr => by
        have := mem_dedup.2 hr; rw [List.isEmpty_iff.mp hne] at this; cases this
      simp only [hne, if_true]
      exact ⟨⟨fun h => (by cases h), fun ⟨_, _, r, hr, _⟩ => absurd hr (hR r)⟩, fun _ _ _ => Check.noConfusion⟩
    · simp only [hne]
      by_cases hm : sub ∈ dedup R
      · simp only [hm, if_true]
        exact ⟨⟨fun _ => ⟨0, by omega, sub, mem_dedup.1 hm, .zero _⟩, fun _ => rfl⟩, fun _ _ _ => Check.noConfusion⟩
      · simp only [hm, if_false]
        obtain ⟨hc, ht⟩ := ih ((dedup R).flatMap succ)
        refine ⟨hc.trans ⟨fun ⟨j, hj, y, hy, p⟩ => ?_, fun ⟨j, hj, r, hr, p⟩ => ?_⟩, fun j hj hempty => ?_⟩
        · obtain ⟨r, hr, e⟩ := (hnext y).1 hy
          exact ⟨j + 1, by omega, r, hr, .succ e p⟩
        · cases p with
          | zero => exact absurd (mem_dedup.2 hr) hm
          | succ e p => exact ⟨_, by omega, _, (hnext _).2 ⟨r, hr, e⟩, p⟩
        · cases j with
          | zero =>
            -- this level is not empty
            cases hd : dedup R with
            | nil => simp [hd] at hne
            | cons x xs => exact absurd (.zero x) (hempty x (mem_dedup.1 (hd ▸ List.mem_cons_self)) x)
          | succ j =>
            refine ht j (by omega) fun y hy x p => ?_
            obtain ⟨r, hr, e⟩ := (hnext y).1 hy
            exact hempty r hr x (.succ e p)

end Check

/-- `a` watches `b` -/
def EdgeOf (so : Map) (a b : Res) : Prop := b ∈ so.get a

def Edge (s : State) : Res → Res → Prop := EdgeOf s.subsOf

theorem mem_nodes_of_get {m : Map} {x y : Res} (h : y ∈ Map.get m x) : y ∈ nodes m := by
  unfold Map.get at h
  fun_induction Assoc.find? m x with
  | case1 => cases h
  | case2 v m k => exact List.mem_append_left (nodes m) (List.mem_cons_of_mem k h)   -- the head holds `x`
  | case3 k' v m k hk ih => exact List.mem_append_right (k' :: v) (ih h)

theorem succ_edge (s : State) : ∀ x y, y ∈ s.subs x ↔ Edge s x y := fun _ _ => Iff.rfl

theorem check_sound (s : State) (sub : Res) (rs : List Res) (fuel : Nat)
    (h : checkLoop s.subs sub fuel (dedup rs) = .cycle) : ∃ r ∈ rs, Reach (Edge s) r sub :=
  have ⟨_, _, r, hr, p⟩ := (checkLoop_spec (succ_edge s) sub fuel rs).1.1 h
  ⟨r, hr, p.toReach⟩

/-- Where the bound comes from: with `n = |nodes|` no path has more than `n` edges (`PathN.le_length`),
    so a subscriber reachable at all is found on one of the levels `0 … n`, and level `n + 1` is empty:
    `n + 2` levels are enough. -/
theorem check_complete (s : State) (sub : Res) (rs : List Res) (hac : Acyclic (Edge s))
    (fuel : Nat) (hf : (nodes s.subsOf).length + 2 ≤ fuel) :
    checkLoop s.subs sub fuel (dedup rs) ≠ .outOfFuel ∧
    (checkLoop s.subs sub fuel (dedup rs) = .cycle ↔ ∃ r ∈ rs, Reach (Edge s) r sub) := by
  have hlen : ∀ {n a b}, PathN (Edge s) n a b → n ≤ (nodes s.subsOf).length :=
    fun p => p.le_length hac fun x y e => mem_nodes_of_get e
  obtain ⟨hc, ht⟩ := checkLoop_spec (succ_edge s) sub fuel rs
  refine ⟨ht ((nodes s.subsOf).length + 1) (by omega) fun r _ x p => ?_, check_sound s sub rs fuel,
    fun ⟨r, hr, hre⟩ => ?_⟩
  · have := hlen p; omega
  · obtain ⟨n, p⟩ := hre.toPathN
    exact hc.2 ⟨n, by have := hlen p; omega, r, hr, p⟩

theorem check_nil (s : State) (sub : Res) : checkForCycles s sub [] = .ok := by
  simp [checkForCycles, fuelFor, checkLoop, dedup]

theorem check_iff (s : State) (sub : Res) (rs : List Res) (hac : Acyclic (Edge s)) :
    checkForCycles s sub rs ≠ .outOfFuel ∧
    (checkForCycles s sub rs = .cycle ↔ ∃ r ∈ rs, Reach (Edge s) r sub) ∧
    (checkForCycles s sub rs = .ok ↔ ¬ ∃ r ∈ rs, Reach (Edge s) r sub) := by
  obtain ⟨h1, hc⟩ : checkForCycles s sub rs ≠ _ ∧ (checkForCycles s sub rs = _ ↔ _) :=
    check_complete s sub rs hac (fuelFor s) (Nat.le_refl _)
  refine ⟨h1, hc, fun hok hx => ?_, fun hn => ?_⟩
  · rw [hc.2 hx] at hok; cases hok
  · cases h : checkForCycles s sub rs with
    | ok => rfl
    | cycle => exact absurd (hc.1 h) hn
    | outOfFuel => exact absurd h h1

/-- `F` stands for `addTo` and `removeFrom`, the same loop written twice in the model; `f` has to be idempotent
    because `xs` may name an entry twice. -/
theorem get_foldUpd (f : List Res → List Res) (hf : ∀ l, f (f l) = f l) (F : Map → List Res → Map)
    (h0 : ∀ m, F m [] = m) (h1 : ∀ m r rs, F m (r :: rs) = F (m.set r (f (m.get r))) rs)
    (xs : List Res) (m : Map) (y : Res) :
    (F m xs).get y = if y ∈ xs then f (m.get y) else m.get y := by
  induction xs generalizing m with
  | nil => simp [h0]
  | cons x xs ih =>
    rw [h1, ih, Map.get_set]
    by_cases hxy : x = y
    · subst hxy; simp [hf]
    · have : ¬ y = x := fun e => hxy e.symm
      simp [hxy, this]

theorem get_addTo (m : Map) (sub : Res) (xs : List Res) (y : Res) :
    (addTo m sub xs).get y = if y ∈ xs then ins sub (m.get y) else m.get y :=
  get_foldUpd (ins sub) (ins_ins sub) (addTo · sub) (fun _ => rfl) (fun _ _ _ => rfl) xs m y

theorem get_removeFrom (m : Map) (sub : Res) (xs : List Res) (y : Res) :
    (removeFrom m sub xs).get y = if y ∈ xs then rem sub (m.get y) else m.get y :=
  get_foldUpd (rem sub) (rem_rem sub) (removeFrom · sub) (fun _ => rfl) (fun _ _ _ => rfl) xs m y

structure MapsGood (so sr : Map) : Prop where
  inv : ∀ a b, b ∈ so.get a ↔ a ∈ sr.get b
  acyclic : Acyclic (EdgeOf so)
  nodupSubs : ∀ a, (so.get a).Nodup
  nodupSubscribers : ∀ a, (sr.get a).Nodup

/-- `unfinished` counts exactly the items still in the queue: a `put` increments both, and the consumers the
    model knows (the drain loop of `deregister`, `Link.popAll`) take an item and finish it together -/
def QInv (qs : Assoc Queue) : Prop := ∀ r q, qs.find? r = some q → q.unfinished = q.items.length

def Good (s : State) : Prop := MapsGood s.subsOf s.subscribersOf ∧ QInv s.queues

theorem good_init : Good init := by
  have hno : ∀ a b, ¬ EdgeOf init.subsOf a b := fun a b e => by cases (e : b ∈ Map.get [] a)
  refine ⟨⟨fun a b => ⟨fun e => absurd e (hno a b), fun e => by cases (e : a ∈ Map.get [] b)⟩, fun a p => ?_,
    fun a => List.nodup_nil, fun a => List.nodup_nil⟩, fun r q h => by cases (h : none = some q)⟩
  -- a path ends with an edge, and there is none
  cases p with
  | single e => exact hno _ _ e
  | tail _ e => exact hno _ _ e

/-- The other view has the shape the two loops of `subscribe_only_to` leave it in; `subscribe` is `A = [r]`, `B = []`
    and `unsubscribe` is `A = []`, `B = [r]`, both by unfolding the loops. -/
theorem MapsGood.rewire {so sr : Map} (h : MapsGood so sr) (sub : Res) {new A B : List Res}
    (hn : new.Nodup) (hreach : ∀ r ∈ new, ¬ Reach (EdgeOf so) r sub)
    (hnew : ∀ b, b ∈ new ↔ (b ∈ so.get sub ∨ b ∈ A) ∧ b ∉ B) :
    MapsGood (so.set sub new) (removeFrom (addTo sr sub A) sub B) where
  inv a b := by
    rw [get_removeFrom, get_addTo, Map.get_set]
    by_cases ha : sub = a
    · subst ha
      rw [if_pos rfl, hnew, h.inv]
      by_cases hB : b ∈ B
      · simp [hB]
      · by_cases hA : b ∈ A <;> simp [hA, hB]
    · -- the loops enter and take out `sub` only
      rw [if_neg ha, h.inv]
      split <;> split <;> simp [Ne.symm ha]
  acyclic := by
    refine acyclic_rewire sub (· ∈ new) (fun x y e => ?_) h.acyclic hreach
    simp only [EdgeOf, Map.get_set] at e
    split at e
    · next hx => exact .inr ⟨hx.symm, e⟩
    · next hx => exact .inl ⟨Ne.symm hx, e⟩
  nodupSubs a := by rw [Map.get_set]; exact nodup_ite hn (h.nodupSubs a)
  nodupSubscribers b := by
    have hb := nodup_ite (c := b ∈ A) (nodup_ins (x := sub) (h.nodupSubscribers b)) (h.nodupSubscribers b)
    rw [get_removeFrom, get_addTo]
    exact nodup_ite (nodup_rem hb) hb

theorem mapsGood_applyOnly {s : State} (h : MapsGood s.subsOf s.subscribersOf) (sub : Res) (rs : List Res)
    (hnew : ∀ r ∈ rs, ¬ Reach (Edge s) r sub) :
    MapsGood (applyOnly s sub rs).subsOf (applyOnly s sub rs).subscribersOf :=
  h.rewire sub (nodup_dedup rs) (fun r hr => hnew r (mem_dedup.1 hr)) fun b => by
    simp only [List.mem_filter, decide_eq_true_eq]
    by_cases h1 : b ∈ dedup rs <;> by_cases h2 : b ∈ s.subsOf.get sub <;> simp [h1, h2]

theorem mapsGood_applySubscribe {s : State} (h : MapsGood s.subsOf s.subscribersOf) (sub r : Res)
    (hnew : ¬ Reach (Edge s) r sub) :
    MapsGood (applySubscribe s sub r).subsOf (applySubscribe s sub r).subscribersOf := by
  refine h.rewire sub (A := [r]) (B := []) (nodup_ins (h.nodupSubs sub)) (fun y hy => ?_) (by simp [or_comm])
  -- the targets `sub` already had cannot reach it, the graph being acyclic
  rcases mem_ins.1 hy with rfl | hy
  · exact hnew
  · exact h.acyclic.not_reach hy

theorem mapsGood_unsub {so sr : Map} (h : MapsGood so sr) (sub r : Res) :
    MapsGood (so.set sub (rem r (so.get sub))) (sr.set r (rem sub (sr.get r))) :=
  h.rewire sub (A := []) (B := [r]) (nodup_rem (h.nodupSubs sub))
    (fun _ hy => h.acyclic.not_reach (mem_rem.1 hy).1) (by simp)

/-- what a successful `put_nowait(ev)` does to a queue -/
def push (ev : Item) (q : Queue) : Queue :=
  { q with items := ev :: q.items, unfinished := q.unfinished + 1 }

def liveIn (qs : Assoc Queue) (x : Res) : Bool :=
  match qs.find? x with
  | some q => q.live
  | none => false

theorem liveIn_del (qs : Assoc Queue) (r x : Res) :
    liveIn (qs.del r) x = if r = x then false else liveIn qs x := by
  unfold liveIn; rw [Assoc.find_del]; by_cases h : r = x <;> simp [h]

theorem putNowait_live {q : Queue} (ev : Item) (h : q.live = true) : q.putNowait ev = .ok (push ev q) := by
  simp only [Queue.live, Bool.and_eq_true, Bool.not_eq_true'] at h
  simp [Queue.putNowait, h.1, h.2, push]

theorem putNowait_not_live {q : Queue} (ev : Item) (h : q.live = false) : ∃ e, q.putNowait ev = .error e := by
  fun_cases Queue.putNowait q ev
  next => exact ⟨_, rfl⟩   -- shut down
  next => exact ⟨_, rfl⟩   -- full
  next h1 h2 => simp [Queue.live, h1, h2] at h   -- accepted: then it was live

theorem putNowait_shut {q : Queue} (ev : Item) (h : q.shut = true) : q.putNowait ev = .error .shutDown := by
  simp [Queue.putNowait, h]

theorem killQ_eq (q : Queue) :
    killQ q = if q.shut = true then q else if q.full = true then q.shutdown else (push .kill q).shutdown := by
  unfold killQ Queue.putNowait
  by_cases h1 : q.shut = true
  · simp [h1]
  · by_cases h2 : q.full = true <;> simp [h1, h2, push]

theorem killQ_shut (q : Queue) : (killQ q).shut = true := by
  rw [killQ_eq]; split
  · assumption
  · split <;> rfl

theorem qinv_killQ {q : Queue} (h : q.unfinished = q.items.length) :
    (killQ q).unfinished = (killQ q).items.length := by
  rw [killQ_eq]; split
  · exact h
  · split
    · exact h
    · simp [push, Queue.shutdown, h]

theorem deliver_skip (caught : QErr → Bool) (hc : ∀ e, caught e = true) (ev : Item) {x : Res} {xs : List Res}
    {qs : Assoc Queue} (h : liveIn qs x = false) :
    deliver caught ev (x :: xs) qs = deliver caught ev xs qs := by
  cases hf : qs.find? x with
  | none => simp [deliver, hf]
  | some q =>
    obtain ⟨e, he⟩ := putNowait_not_live ev (q := q) (by simpa [liveIn, hf] using h)
    simp [deliver, hf, he, hc e]

theorem deliver_live (caught : QErr → Bool) (ev : Item) {x : Res} {xs : List Res} {qs : Assoc Queue}
    {q : Queue} (hf : qs.find? x = some q) (hl : q.live = true) :
    deliver caught ev (x :: xs) qs =
      (deliver caught ev xs (qs.set x (push ev q))).map fun p => (p.1, x :: p.2) := by
  simp only [deliver, hf, putNowait_live ev hl]
  cases deliver caught ev xs (qs.set x (push ev q)) <;> rfl

theorem deliver_spec (caught : QErr → Bool) (hc : ∀ e, caught e = true) (ev : Item) :
    ∀ (xs : List Res) (qs : Assoc Queue),
      ∃ qs' ds, deliver caught ev xs qs = .ok (qs', ds) ∧ (xs.Nodup → ds = xs.filter (liveIn qs) ∧
        ∀ y, qs'.find? y = if y ∈ ds then (qs.find? y).map (push ev) else qs.find? y) := by
  intro xs
  induction xs with
  | nil => intro qs; exact ⟨qs, [], rfl, fun _ => ⟨rfl, by simp⟩⟩
  | cons x xs ih =>
    intro qs
    cases hl : liveIn qs x with
    | false =>
      obtain ⟨qs', ds, h1, h2⟩ := ih qs
      refine ⟨qs', ds, by rw [deliver_skip caught hc ev hl, h1], fun hn => ?_⟩
      obtain ⟨h2, h3⟩ := h2 (List.nodup_cons.mp hn).2
      exact ⟨by simp [hl, h2], h3⟩
    | true =>
      obtain ⟨q, hf, hq⟩ : ∃ q, qs.find? x = some q ∧ q.live = true := by
        cases hf : qs.find? x <;> simp [liveIn, hf] at hl
        exact ⟨_, rfl, hl⟩
      obtain ⟨qs', ds, h1, h2⟩ := ih (qs.set x (push ev q))
      refine ⟨qs', x :: ds, by rw [deliver_live caught ev hf hq, h1]; rfl, fun hn => ?_⟩
      obtain ⟨hx, hn'⟩ := List.nodup_cons.mp hn
      obtain ⟨h2, h3⟩ := h2 hn'
      -- `x` does not occur again, so the put into its queue is invisible to the rest of the loop
      have hds : ds = xs.filter (liveIn qs) := by
        rw [h2]
        apply List.filter_congr
        intro y hy
        have : x ≠ y := fun e => hx (e ▸ hy)
        simp [liveIn, Assoc.find_set, this]
      have hxds : x ∉ ds := fun hm => hx (List.mem_filter.mp (hds ▸ hm)).1
      refine ⟨by simp [hl, hds], fun y => ?_⟩
      rw [h3 y, Assoc.find_set]
      by_cases hxy : x = y
      · subst hxy; simp [hxds, hf]
      · have : y ≠ x := fun e => hxy e.symm
        simp [hxy, this]

theorem qinv_set {qs : Assoc Queue} (hq : QInv qs) (r : Res) {q : Queue}
    (h : q.unfinished = q.items.length) : QInv (qs.set r q) := by
  intro r' q' hr
  rw [Assoc.find_set] at hr
  split at hr
  · cases hr; exact h
  · exact hq r' q' hr

theorem qinv_del {qs : Assoc Queue} (hq : QInv qs) (r : Res) : QInv (qs.del r) := by
  intro r' q' hr
  rw [Assoc.find_del] at hr
  split at hr
  · cases hr
  · exact hq r' q' hr

theorem qinv_of_pushed {qs qs' : Assoc Queue} {ds : List Res} {ev : Item} (hq : QInv qs)
    (h3 : ∀ y, qs'.find? y = if y ∈ ds then (qs.find? y).map (push ev) else qs.find? y) : QInv qs' := by
  intro r q hr
  rw [h3 r] at hr
  split at hr
  · cases hf : qs.find? r with
    | none => simp [hf] at hr
    | some q0 =>
      simp only [hf, Option.map_some, Option.some.injEq] at hr; subst hr
      simp [push, hq r q0 hf]
  · exact hq r q hr

theorem qinv_deliver {caught : QErr → Bool} (hc : ∀ e, caught e = true) {ev : Item} {xs : List Res}
    {qs qs' : Assoc Queue} {ds : List Res} (hn : xs.Nodup) (hq : QInv qs)
    (h : deliver caught ev xs qs = .ok (qs', ds)) : QInv qs' := by
  obtain ⟨qs'', ds', h1, h2⟩ := deliver_spec caught hc ev xs qs
  rw [h1] at h; cases h
  exact qinv_of_pushed hq (h2 hn).2

theorem caughtRepaired_all : ∀ e, caughtRepaired e = true := by intro e; cases e <;> rfl

theorem notifyWith_out (s : State) (r : Res) (t : Option Nat) (wrap : List Res → Out) :
    ∃ qs ds, notifyWith caughtRepaired s r t wrap = ({ s with queues := qs }, wrap ds) := by
  obtain ⟨qs, ds, h, -⟩ := deliver_spec caughtRepaired caughtRepaired_all (.event r t) (s.subscribers r) s.queues
  exact ⟨qs, ds, by simp only [notifyWith, h]⟩

theorem notifyWith_spec (caught : QErr → Bool) (hc : ∀ e, caught e = true) (s : State) (r : Res)
    (t : Option Nat) (wrap : List Res → Out) (hn : (s.subscribers r).Nodup) :
    ∃ qs' ds, notifyWith caught s r t wrap = ({ s with queues := qs' }, wrap ds) ∧
      ds = (s.subscribers r).filter (liveIn s.queues) ∧
      (∀ y, qs'.find? y = if y ∈ ds then (s.queues.find? y).map (push (.event r t)) else s.queues.find? y) := by
  obtain ⟨qs', ds, h1, h2⟩ := deliver_spec caught hc (.event r t) (s.subscribers r) s.queues
  exact ⟨qs', ds, by simp [notifyWith, h1], h2 hn⟩

theorem Good.setQueue {s : State} (h : Good s) (r : Res) {q : Queue} (hq : q.unfinished = q.items.length) :
    Good { s with queues := s.queues.set r q } :=
  ⟨h.1, qinv_set h.2 r hq⟩

/-- the state the notification inside `deregister` starts from -/
theorem Good.dropped {s : State} (h : Good s) (r : Res) :
    Good { applyOnly s r [] with queues := s.queues.del r } :=
  ⟨mapsGood_applyOnly h.1 r [] (by simp), qinv_del h.2 r⟩

theorem good_notifyWith {s : State} (h : Good s) (r : Res) (t : Option Nat) (wrap : List Res → Out) :
    Good (notifyWith caughtRepaired s r t wrap).1 := by
  obtain ⟨qs', ds, h1, _, h3⟩ :=
    notifyWith_spec caughtRepaired caughtRepaired_all s r t wrap (h.1.nodupSubscribers r)
  rw [h1]
  exact ⟨h.1, qinv_of_pushed h.2 h3⟩

theorem step_register_some {s : State} {r : Res} {q : Queue} (cap : Nat) (h : s.queues.find? r = some q) :
    step s (.register r cap) = (s, .delivered []) := by
  simp only [step, stepWith, h]

theorem step_register_none {s : State} {r : Res} (cap : Nat) (h : s.queues.find? r = none) :
    step s (.register r cap) =
      notifyWith caughtRepaired { s with queues := s.queues.set r (Queue.fresh cap) } r none .delivered := by
  simp only [step, stepWith, h]

theorem step_subscribeOnlyTo_ok {s : State} {sub : Res} {rs : List Res} (h : checkForCycles s sub rs = .ok) :
    step s (.subscribeOnlyTo sub rs) = (applyOnly s sub rs, .ok) := by
  simp only [step, stepWith, h]

theorem step_kill_none {s : State} {r : Res} (h : s.queues.find? r = none) : step s (.kill r) = (s, .ok) := by
  simp only [step, stepWith, h]

theorem step_kill_some {s : State} {r : Res} {q : Queue} (h : s.queues.find? r = some q) :
    step s (.kill r) = ({ s with queues := s.queues.set r (killQ q) }, .ok) := by
  simp only [step, stepWith, h]

/-- only `queues` changes, and only at `r` -/
theorem step_kill_frame (s : State) (r : Res) :
    (step s (.kill r)).1 = { s with queues := (step s (.kill r)).1.queues } ∧
    ∀ x, r ≠ x → (step s (.kill r)).1.queues.find? x = s.queues.find? x := by
  cases hf : s.queues.find? r with
  | none => rw [step_kill_none hf]; exact ⟨rfl, fun _ _ => rfl⟩
  | some q => rw [step_kill_some hf]; exact ⟨rfl, fun x hx => by rw [Assoc.find_set, if_neg hx]⟩

/-- one equation for both exits: `del` of an unregistered resource changes nothing -/
theorem step_deregister (s : State) (r : Res) (t : Nat) :
    step s (.deregister r t) =
      notifyWith caughtRepaired { applyOnly s r [] with queues := s.queues.del r } r (some t)
        (.released ((s.queues.find? r).map fun q => drainQ (killQ q))) := by
  show stepWith caughtRepaired s (.deregister r t) = _
  simp only [stepWith]
  cases hf : s.queues.find? r with
  | none =>
    have : (applyOnly s r []).queues.find? r = none := hf
    simp only [this, Assoc.del_of_find_none hf]; rfl
  | some q =>
    have : (applyOnly s r []).queues.find? r = some q := hf
    simp only [this]; rfl

/-- `Answer s op res`: what `step s op` may return as `res`, as far as the answer decides the new state.
    `keyError`: the first `remove` of `unsubscribe` fails before anything is written; the second can only fail where
    the two views disagree. -/
inductive Answer (s : State) : Op → State × Out → Prop
  | delivered (op s' ds) : Answer s op (s', .delivered ds)
  | released (op s' q ds) : Answer s op (s', .released q ds)
  | ok (op s') : Answer s op (s', .ok)
  | cycle (op) : Answer s op (s, .cycle)
  | diverged (op) : Answer s op (s, .diverged)
  | keyError (sub r s') : (sub ∈ s.subscribersOf.get r → r ∉ s.subsOf.get sub) →
      (sub ∉ s.subscribersOf.get r → s' = s) → Answer s (.unsubscribe sub r) (s', .keyError)

/-- By the exits of `stepWith`, in the order of its text: `register` (1 known, 2 new), `subscribe` (3 – 5:
    cycle, out of fuel, accepted), `subscribeOnlyTo` (6 – 8 likewise), `unsubscribe` (9 done, 10 `KeyError` of the
    second `remove`, 11 of the first), `notify` (12), `kill` (13 unregistered, 14 registered), `deregister`
    (15 unregistered, 16 registered). -/
theorem step_answer (s : State) (op : Op) : Answer s op (step s op) := by
  unfold step
  fun_cases stepWith caughtRepaired s op
  case case10 h1 _ h2 => exact .keyError _ _ _ (fun _ => h2) (fun h => absurd h1 h)
  case case11 h1 => exact .keyError _ _ _ (fun h => absurd h h1) (fun _ => rfl)
  -- the exits that end in a notification
  case case2 | case12 | case15 | case16 =>
    obtain ⟨qs, ds, h⟩ := notifyWith_out ..
    rw [h]; constructor
  all_goals constructor

theorem keyError_unchanged_of_good {s : State} (hg : Good s) {op : Op}
    (h : (step s op).2 = .keyError) : (step s op).1 = s := by
  have ha := step_answer s op
  generalize step s op = res at ha h
  cases ha with
  | keyError sub r s' h1 h2 => exact h2 fun hm => h1 hm ((hg.1.inv sub r).2 hm)
  | _ => cases h

theorem subscribeOnlyTo_out {s : State} (hac : Acyclic (Edge s)) (sub : Res) (rs : List Res) :
    (step s (.subscribeOnlyTo sub rs)).2 ≠ .diverged ∧
    ((step s (.subscribeOnlyTo sub rs)).2 = .cycle ↔ ∃ r ∈ rs, Reach (Edge s) r sub) ∧
    ((step s (.subscribeOnlyTo sub rs)).2 = .ok ↔ ¬ ∃ r ∈ rs, Reach (Edge s) r sub) := by
  obtain ⟨h0, h1, h2⟩ := check_iff s sub rs hac
  rw [← h2, ← h1]
  simp only [step, stepWith]
  cases hc : checkForCycles s sub rs with
  | outOfFuel => exact absurd hc h0
  | cycle => simp
  | ok => simp

theorem subscribe_out (s : State) (sub r : Res) :
    (step s (.subscribe sub r)).2 = (step s (.subscribeOnlyTo sub [r])).2 := by
  simp only [step, stepWith]
  split <;> rfl

theorem notify_exactly_once_of_good {s : State} (hg : Good s) (r : Res) (t : Nat) :
    ∃ ds, (step s (.notify r t)).2 = .delivered ds ∧ ds.Nodup ∧
      (∀ x, x ∈ ds ↔ x ∈ s.subscribers r ∧ liveIn s.queues x = true) ∧
      (∀ x, (step s (.notify r t)).1.queues.find? x =
        if x ∈ ds then (s.queues.find? x).map (push (.event r (some t))) else s.queues.find? x) ∧
      (step s (.notify r t)).1.subsOf = s.subsOf ∧
      (step s (.notify r t)).1.subscribersOf = s.subscribersOf := by
  have hn := hg.1.nodupSubscribers r
  obtain ⟨qs', ds, h1, h2, h3⟩ :=
    notifyWith_spec caughtRepaired caughtRepaired_all s r (some t) .delivered hn
  have hstep : step s (.notify r t) = ({ s with queues := qs' }, .delivered ds) := h1
  rw [hstep]
  exact ⟨ds, rfl, h2 ▸ hn.filter _, fun x => by rw [h2, List.mem_filter], h3, rfl, rfl⟩

theorem deregister_releases_of_good {s : State} (hg : Good s) (r : Res) (t : Nat) :
    let s' := (step s (.deregister r t)).1
    s'.queues.find? r = none ∧ s'.subs r = [] ∧ (∀ b, r ∉ s'.subscribers b) ∧
    ∃ ds, (step s (.deregister r t)).2 = .released ((s.queues.find? r).map fun q => drainQ (killQ q)) ds ∧
      (∀ q, s.queues.find? r = some q →
        (drainQ (killQ q)).items = [] ∧ (drainQ (killQ q)).shut = true ∧ (drainQ (killQ q)).unfinished = 0) ∧
      (∀ x, x ∈ ds ↔ x ∈ s.subscribers r ∧ x ≠ r ∧ liveIn s.queues x = true) := by
  have hm1 := (hg.dropped r).1
  obtain ⟨qs', ds, h1, h2, h3⟩ := notifyWith_spec caughtRepaired caughtRepaired_all
    { applyOnly s r [] with queues := s.queues.del r } r (some t)
    (.released ((s.queues.find? r).map fun q => drainQ (killQ q))) (hm1.nodupSubscribers r)
  -- the other view after the first step, read off the subscription lists: `r` is nobody's subscriber
  have hsr : ∀ a b, a ∈ (applyOnly s r []).subscribersOf.get b ↔ a ≠ r ∧ a ∈ s.subscribersOf.get b := by
    intro a b
    rw [← hm1.inv, ← hg.1.inv]
    show b ∈ Map.get (s.subsOf.set r []) a ↔ _
    by_cases ha : r = a
    · simp [← ha]
    · simp [ha, Ne.symm ha]
  -- so `r` is not told, and its queue is gone anyway
  have hds : ∀ x, x ∈ ds ↔ x ∈ s.subscribers r ∧ x ≠ r ∧ liveIn s.queues x = true := by
    intro x
    rw [h2, List.mem_filter, liveIn_del]
    show x ∈ (applyOnly s r []).subscribersOf.get r ∧ _ ↔ _
    by_cases hx : r = x
    · simp [hsr, ← hx]
    · simp [hsr, hx, Ne.symm hx, State.subscribers]
  rw [step_deregister, h1]
  refine ⟨?_, ?_, fun b hb => ((hsr r b).1 hb).1 rfl, ds, rfl, fun q hq => ⟨rfl, ?_, ?_⟩, hds⟩
  · rw [h3 r, if_neg (fun hr => ((hds r).1 hr).2.1 rfl)]; simp
  · simp [State.subs, applyOnly, dedup]
  · simp [drainQ, killQ_shut]
  · simp [drainQ, qinv_killQ (hg.2 r q hq)]

theorem good_step {s : State} (h : Good s) (op : Op) : Good (step s op).1 := by
  have ⟨hm, hq⟩ := h
  unfold step
  fun_cases stepWith caughtRepaired s op   -- exits numbered as at `step_answer`
  case case2 r cap _ => exact good_notifyWith (h.setQueue r rfl) ..
  case case5 sub r hc =>
    exact ⟨mapsGood_applySubscribe hm sub r fun hre => (check_iff s sub [r] hm.acyclic).2.2.1 hc ⟨r, by simp, hre⟩, hq⟩
  case case8 sub rs hc =>
    exact ⟨mapsGood_applyOnly hm sub rs fun r hr hre => (check_iff s sub rs hm.acyclic).2.2.1 hc ⟨r, hr, hre⟩, hq⟩
  case case9 sub r _ _ _ => exact ⟨mapsGood_unsub hm sub r, hq⟩
  -- the second `remove` cannot miss: the views are inverse
  case case10 sub r h1 _ h2 => exact absurd ((hm.inv sub r).2 h1) h2
  case case12 r t => exact good_notifyWith h r (some t) .delivered
  case case14 r q hf => exact h.setQueue r (qinv_killQ (hq r q hf))
  case case15 r t _ _ => exact good_notifyWith (s := applyOnly s r []) ⟨mapsGood_applyOnly hm r [] (by simp), hq⟩ ..
  case case16 r t _ q _ _ => exact good_notifyWith (h.dropped r) ..
  -- refusals, a repeated `register`, `kill` of an unregistered resource: nothing changed
  all_goals exact h

theorem good_run {s : State} (h : Good s) (ops : List Op) : Good (run s ops) := by
  induction ops generalizing s with
  | nil => exact h
  | cons op ops ih => exact ih (good_step h op)

end Koreo.Registry
