/-
  C16 beyond the invariant.  First what the cache shows (`view`) against a plain map (`track`):
  `view_run` / `view_bg` are the safety statements `C16.cache_shows_last_offer` and
  `monitor_step_keeps_versions`.  Then the liveness side: what `reprepare` / `drain` / `bg` leave
  alone, and one pass over the monitors in rank order (`settle`), by which from every reachable state
  the monitors alone reach an idle state (so "once the system is idle" is not a vacuous premise).
-/
import Koreo.Lemmas.HotReload

namespace Koreo.HotReload
variable {R : Type} [DecidableEq R] {Spec : Type}

def Quiet (s : State R Spec) (x : R) : Prop :=
  s.mon x ≠ .starting ∧ (s.mon x = .waiting → s.queue x = some [])

set_option linter.unusedSectionVars false in
theorem idle_iff_quiet (s : State R Spec) : Idle s ↔ ∀ x, Quiet s x := Iff.rfl

def view (s : State R Spec) (x : R) : Option (Nat × Spec) := (s.cache x).map (fun e => (e.version, e.spec))

def track (m : R → Option (Nat × Spec)) : Action R Spec → (R → Option (Nat × Spec))
  | .offer r v deps =>
    match m r with
    | some (v', _) => if v' = v then m else upd m r (some (v, deps))
    | none => upd m r (some (v, deps))
  | .delete r ver =>
    match m r with
    | none => m
    | some (v', _) => if staleVersion ver v' then m else upd m r none
  | .bg _ => m

omit [DecidableEq R] in
theorem view_congr {s s' : State R Spec} (h : s'.cache = s.cache) : view s' = view s := by
  unfold view; rw [h]

omit [DecidableEq R] in
theorem view_of_cached {s : State R Spec} {r : R} {e : Entry R Spec} (hc : s.cache r = some e) :
    view s r = some (e.version, e.spec) := by
  simp [view, hc]

theorem view_changeState (s : State R Spec) (r : R) (ce : Option (Entry R Spec)) (deps : List R)
    (q : Option (List Nat)) (m : Mon) (p : Nat) :
    view (changeState s r ce deps q m p) = upd (view s) r (ce.map fun e => (e.version, e.spec)) := by
  funext x
  by_cases hx : x = r
  · subst hx; simp [view, changeState]
  · simp [view, changeState, upd_other _ _ _ hx]

theorem view_reprepare (decl : Spec → (R → Bool) → List R) (s : State R Spec) (r : R) :
    view (reprepare decl s r) = view s := by
  cases hc : s.cache r with
  | none => rw [reprepare_none hc]
  | some e =>
    rw [reprepare_eq hc, view_changeState]
    exact (congrArg (upd (view s) r) (view_of_cached hc).symm).trans (upd_eq_self (view s) r)

theorem view_drain (decl : Spec → (R → Bool) → List R) (q : List Nat) (s : State R Spec) (r : R) :
    view (drain decl s r q) = view s :=
  drain_induction decl r (P := fun s' => view s' = view s) (fun s' h => (view_reprepare decl s' r).trans h) q s rfl

theorem view_runDrain (decl : Spec → (R → Bool) → List R) (s : State R Spec) (r : R) :
    view (runDrain decl s r) = view s := by
  fun_cases runDrain decl s r
  · rfl
  · rw [view_drain]; rfl

theorem view_bg (decl : Spec → (R → Bool) → List R) (s : State R Spec) (r : R) : view (bg decl s r) = view s := by
  fun_cases bg decl s r
  · rfl
  · rw [view_runDrain]; exact view_congr (register_cache s r)
  · exact view_runDrain decl s r

theorem view_step (decl : Spec → (R → Bool) → List R) (s : State R Spec) (a : Action R Spec) :
    view (step decl s a) = track (view s) a := by
  cases a with
  | bg r => exact view_bg decl s r
  | offer r v spec =>
    have hnew : view (offerNew decl s r v spec) = upd (view s) r (some (v, spec)) := by
      rw [offerNew_eq, view_changeState, view_congr (s := s) (by rw [register_cache]; rfl)]; rfl
    rcases offer_cases decl s r v spec with ⟨e, hc, hv, h⟩ | ⟨hne, h⟩ <;> simp only [step, h, track]
    · simp [view_of_cached hc, hv]
    · cases hc : s.cache r with
      | none => simp [view, hc, hnew]
      | some e => simp [view_of_cached hc, hne e hc, hnew]
  | delete r ver =>
    rcases delete_cases s r ver with ⟨hst, h⟩ | ⟨e, hc, hst, h⟩ <;> simp only [step, h, track]
    · cases hc : s.cache r with
      | none => simp [view, hc]
      | some e => simp [view_of_cached hc, hst e hc]
    · rw [view_changeState]; simp [view_of_cached hc, hst]

theorem view_run (decl : Spec → (R → Bool) → List R) (acts : List (Action R Spec)) (s : State R Spec) :
    view (run decl s acts) = acts.foldl track (view s) := by
  induction acts generalizing s with
  | nil => rfl
  | cons a rest ih => exact (ih (step decl s a)).trans (by rw [view_step]; rfl)

theorem reprepare_frame {decl : Spec → (R → Bool) → List R} {rank : R → Nat} {s : State R Spec} {r : R}
    (hspec : ∀ e, s.cache r = some e → SpecRanked decl rank r e.spec) :
    (∀ x, x ≠ r → (reprepare decl s r).subs x = s.subs x) ∧
    (reprepare decl s r).queue r = s.queue r ∧
    (∀ x, x ≠ r → r ∉ s.subs x → (reprepare decl s r).queue x = s.queue x) := by
  cases hc : s.cache r with
  | none => rw [reprepare_none hc]; exact ⟨fun _ _ => rfl, rfl, fun _ _ _ => rfl⟩
  | some e =>
    have : r ∉ decl e.spec (cachedB s) := fun hmem => Nat.lt_irrefl _ (hspec e hc _ r hmem)
    rw [reprepare_eq hc]
    refine ⟨fun x hx => ?_, ?_, fun x hx hns => ?_⟩
    · simp [changeState, tick, upd_other _ _ _ hx]
    · simp [changeState, tick, this]
    · simp [changeState, tick, upd_other _ _ _ hx, hns]

theorem runDrain_mon (decl : Spec → (R → Bool) → List R) (s : State R Spec) (r : R) :
    (runDrain decl s r).mon = s.mon := by
  fun_cases runDrain decl s r
  · rfl
  · exact drain_induction decl r (P := fun s' => s'.mon = s.mon)
      (fun s' h => (reprepare_mon decl s' r).trans h) _ _ rfl

theorem bg_mon (decl : Spec → (R → Bool) → List R) (s : State R Spec) (r : R) :
    (bg decl s r).mon = if s.mon r = .starting then upd s.mon r .waiting else s.mon := by
  fun_cases bg decl s r <;> simp [*, runDrain_mon]

theorem bg_queue {decl : Spec → (R → Bool) → List R} {rank : R → Nat} {s : State R Spec}
    (h : Inv decl rank s) (r : R) :
    (s.mon r ≠ .none → (bg decl s r).queue r = some []) ∧
    (∀ x, x ≠ r → r ∉ s.subs x → (bg decl s r).queue x = s.queue x) := by
  -- along the step nobody else's subscriptions change, so "does not watch `r`" keeps its meaning
  refine (bg_induction h r (P := fun s' => (∀ x, x ≠ r → s'.subs x = s.subs x) ∧
    (s.mon r ≠ .none → s'.queue r = some []) ∧ ∀ x, x ≠ r → r ∉ s.subs x → s'.queue x = s.queue x)
    (fun hm => ⟨fun _ _ => rfl, fun h => absurd hm h, fun _ _ _ => rfl⟩)
    (fun _ _ => ⟨fun _ _ => rfl, fun _ => upd_same .., fun x hx _ => upd_other _ _ _ hx⟩) ?_).2.2
  intro s' _ h' ⟨hs, hqr, hqo⟩
  obtain ⟨fs, fqr, fqo⟩ := reprepare_frame (h'.specOk r)
  exact ⟨fun x hx => (fs x hx).trans (hs x hx), fun hm => fqr.trans (hqr hm),
    fun x hx hns => (fqo x hx (by rw [hs x hx]; exact hns)).trans (hqo x hx hns)⟩

theorem bg_quiet {decl : Spec → (R → Bool) → List R} {rank : R → Nat} {s : State R Spec}
    (h : Inv decl rank s) (r : R) :
    Quiet (bg decl s r) r ∧
    (∀ x, x ≠ r → (bg decl s r).mon x = s.mon x) ∧
    (∀ x, x ≠ r → ¬ rank r < rank x → Quiet s x → Quiet (bg decl s r) x) := by
  obtain ⟨hqr, hqo⟩ := bg_queue h r
  have hmo : ∀ x, x ≠ r → (bg decl s r).mon x = s.mon x := by
    intro x hx; rw [bg_mon]; split
    · exact upd_other _ _ _ hx
    · rfl
  refine ⟨?_, hmo, fun x hx hnr ⟨q1, q2⟩ => ⟨by rw [hmo x hx]; exact q1, fun hw => ?_⟩⟩
  · -- a starting monitor is waiting afterwards; one that waits afterwards existed before
    rw [Quiet, bg_mon]
    split
    · next hm => exact ⟨by simp, fun _ => hqr (by rw [hm]; simp)⟩
    · next hm => exact ⟨hm, fun hw => hqr (by rw [hw]; simp)⟩
  · rw [hqo x hx fun hmem => hnr (h.ranked x r hmem)]
    exact q2 (hmo x hx ▸ hw)

/-- `hcover` is the loop invariant of the pass: a monitor that is not still to run is quiet and ranks not above
    anything still to run. -/
theorem settle_aux {decl : Spec → (R → Bool) → List R} {rank : R → Nat} (rs : List R) {s : State R Spec}
    (h : Inv decl rank s)
    (hsorted : rs.Pairwise (fun a b => rank a ≤ rank b))
    (hcover : ∀ x, s.mon x ≠ .none → x ∉ rs → Quiet s x ∧ ∀ y ∈ rs, ¬ rank y < rank x) :
    Idle (run decl s (rs.map Action.bg)) := by
  induction rs generalizing s with
  | nil =>
    intro x
    show Quiet s x
    by_cases hm : s.mon x = .none
    · rw [Quiet, hm]; exact ⟨nofun, nofun⟩
    · exact (hcover x hm List.not_mem_nil).1
  | cons r rest ih =>
    simp only [List.map_cons, run, List.foldl_cons, step]
    obtain ⟨hqr, hmo, hframe⟩ := bg_quiet h r
    have hs := List.pairwise_cons.1 hsorted
    refine ih (inv_bg h r) hs.2 fun x hm hx => ?_
    by_cases hxr : x = r
    · subst hxr; exact ⟨hqr, fun y hy => Nat.not_lt.2 (hs.1 y hy)⟩
    · -- `x` ranks not above `r`, and a monitor step reaches only higher-ranked watchers
      obtain ⟨hq, hlow⟩ := hcover x (hmo x hxr ▸ hm) fun hmem => (List.mem_cons.1 hmem).elim hxr hx
      exact ⟨hframe x hxr (hlow r List.mem_cons_self) hq, fun y hy => hlow y (List.mem_cons_of_mem _ hy)⟩

theorem settle {decl : Spec → (R → Bool) → List R} {rank : R → Nat} {s : State R Spec}
    (h : Inv decl rank s) (l : List R) (hl : ∀ x, s.mon x ≠ .none → x ∈ l) :
    Idle (run decl s ((l.mergeSort fun a b => decide (rank a ≤ rank b)).map Action.bg)) := by
  refine settle_aux _ h ?_ fun x hm hx => absurd (List.mem_mergeSort.2 (hl x hm)) hx
  refine (List.pairwise_mergeSort (le := fun a b => decide (rank a ≤ rank b))
    (fun a b c hab hbc => ?_) (fun a b => ?_) l).imp (fun hab => by simpa using hab)
  · simp only [decide_eq_true_eq] at *; omega
  · simp only [Bool.or_eq_true, decide_eq_true_eq]; omega

/-- `settle` needs a finite list covering every monitor; for a reachable state this one does
    (`mon_only_offered`). -/
def offered : List (Action R Spec) → List R
  | [] => []
  | .offer r _ _ :: rest => r :: offered rest
  | _ :: rest => offered rest

omit [DecidableEq R] in
theorem offered_cons (a : Action R Spec) (rest : List (Action R Spec)) :
    offered (a :: rest) = offered [a] ++ offered rest := by
  cases a <;> rfl

theorem track_none {m : R → Option (Nat × Spec)} {x : R} (hm : m x = none) (a : Action R Spec)
    (hx : x ∉ offered [a]) : track m a x = none := by
  -- exits of `track`: an offer of the version shown, of another one, of a resource not shown; a delete of a
  -- resource not shown, of a stale version, an effective one; a monitor step
  fun_cases track m a
  next => exact hm
  next => rwa [upd_other _ _ _ (mt List.mem_singleton.2 hx)]
  next => rwa [upd_other _ _ _ (mt List.mem_singleton.2 hx)]
  next => exact hm
  next => exact hm
  next => unfold upd; split <;> trivial
  next => exact hm

theorem foldl_track_none (acts : List (Action R Spec)) {m : R → Option (Nat × Spec)} {x : R} (hm : m x = none)
    (hx : x ∉ offered acts) : acts.foldl track m x = none := by
  induction acts generalizing m with
  | nil => exact hm
  | cons a rest ih =>
    rw [offered_cons, List.mem_append, not_or] at hx
    exact ih (track_none hm a hx.1) hx.2

/-- a monitor belongs to a cached resource (`Inv`), and the cache shows offered resources only (`view_run`) -/
theorem mon_only_offered {decl : Spec → (R → Bool) → List R} {rank : R → Nat} {acts : List (Action R Spec)}
    (h : Inv decl rank (run decl init acts)) {x : R} (hm : (run decl init acts).mon x ≠ .none) :
    x ∈ offered acts := by
  obtain ⟨e, -, hc, -⟩ := h.registered_of_mon hm
  refine Decidable.by_contra fun hx => ?_
  have hv := view_of_cached hc
  rw [view_run, foldl_track_none acts rfl hx] at hv
  cases hv

end Koreo.HotReload
