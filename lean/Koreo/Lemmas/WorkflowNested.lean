/-
  Lemmas for the nested asynchronous semantics (`Koreo/WorkflowNested.lean`).

  `NInv n`: the invariant `Inv` of the flat semantics (every done entry / finished iteration equals the reference
  entry of `runAt … n`) for the top invocation, and — recursively, one level down — for every nested invocation,
  each of which sits at an evaluation the reference makes too (same step, same inputs, same definition).
  Preservation follows the recursion of `nstep` (its induction principle); an outer event of depth n+1 is the flat
  `inv_stepG` with the answers of `evalOutcome`, which are the reference's (`evalOutcome_ref`).
-/
import Koreo.Lemmas.WorkflowAsync

namespace Koreo.Workflow
open Koreo Koreo.Result

section answer
variable {eval : EvalFn} {base : RunFn} {defs : Env} {l : Label} {idx : Option Nat}
  {act : List (String × JVal)} {inp : JVal} {logic : Logic}

theorem answerOf_nested {w : Workflow} (h : answerOf eval base defs l idx act inp logic = .nested w) :
    ∃ name, lookupL name defs = some w := by
  revert h
  fun_cases answerOf eval base defs l idx act inp logic <;> intro h <;> cases h
  next name _ hd => exact ⟨name, hd⟩

theorem runLogic_runAt (eval : EvalFn) (base : RunFn) (defs : Env) (n : Nat) (l idx act inp logic) :
    (runLogic eval (runAt eval base defs (n + 1)) l idx act inp logic).1 =
      match answerOf eval base defs l idx act inp logic with
      | .direct o => o
      | .nested w => subStepOut (collect eval w (trace eval (runAt eval base defs n) inp w).results) := by
  unfold answerOf
  simp only [runLogic_eq_target]
  cases ht : logicTarget eval act inp logic with
  | none => rfl
  | some t =>
    cases t with
    | fn id => simp only [runTarget, runAt_fn]
    | wf name =>
      cases hd : lookupL name defs with
      | none => simp only [runTarget, runAt_unknown hd, hd]
      | some w => simp only [runTarget, runAt, hd]; exact subOut_stepOut _ _

end answer

theorem lookupS_setS (k k' : Frame) (v : NState) (xs : List (Frame × NState)) :
    lookupS k' (setS k v xs) = if k' = k then some v else lookupS k' xs := by
  fun_induction setS k v xs
  · simp only [lookupS, eq_comm]
  · -- the entry for `k` is replaced where it stands
    simp only [lookupS, eq_comm]
    split <;> rfl
  · next k0 _ _ h0 ih =>
    -- the entry of another key `k0` is passed by
    simp only [lookupS, ih]
    by_cases e : k' = k
    · simp [e, h0]
    · simp [e]

def refResults (eval : EvalFn) (base : RunFn) (defs : Env) (n : Nat) (trig : JVal) (wf : Workflow) :
    List (Label × StepOut) :=
  (trace eval (runAt eval base defs n) trig wf).results

def NInv (eval : EvalFn) (base : RunFn) (defs : Env) : Nat → Workflow → JVal → NState → Prop
  | 0, wf, trig, st =>
    Inv eval (runAt eval base defs 0) trig wf (refResults eval base defs 0 trig wf) st.top
  | n + 1, wf, trig, st =>
    Inv eval (runAt eval base defs (n + 1)) trig wf (refResults eval base defs (n + 1) trig wf) st.top ∧
    ∀ l idx sub, lookupS (l, idx) st.subs = some sub →
      ∃ s, s ∈ wf.steps ∧ s.label = l ∧ ∃ act inp w,
        (gate eval trig (depRes (refResults eval base defs (n + 1) trig wf) s.deps) s).evalAt idx = some (act, inp) ∧
        answerOf eval base defs l idx act inp s.logic = .nested w ∧
        NInv eval base defs n w inp sub

section invariant
variable {eval : EvalFn} {base : RunFn} {defs : Env} {n : Nat} {wf : Workflow} {trig : JVal} {st : NState}

theorem NInv.top_inv (h : NInv eval base defs n wf trig st) :
    Inv eval (runAt eval base defs n) trig wf (refResults eval base defs n trig wf) st.top := by
  cases n with
  | zero => exact h
  | succ n => exact h.1

theorem ninv_empty (eval : EvalFn) (base : RunFn) (defs : Env) (n : Nat) (wf : Workflow) (trig : JVal) :
    NInv eval base defs n wf trig .empty := by
  cases n with
  | zero => exact inv_init ..
  | succ n => exact ⟨inv_init .., fun l idx sub h => nomatch h⟩

/-- `getD .empty` covers an invocation that has not begun: the empty state satisfies every `NInv` -/
theorem NInv.sub (hwf : wf.WF = true) (inv : NInv eval base defs (n + 1) wf trig st) {s : Step}
    (hs : s ∈ wf.steps) {idx act inp w}
    (hev : (gate eval trig (depRes (refResults eval base defs (n + 1) trig wf) s.deps) s).evalAt idx =
      some (act, inp))
    (ha : answerOf eval base defs s.label idx act inp s.logic = .nested w) :
    NInv eval base defs n w inp ((lookupS (s.label, idx) st.subs).getD .empty) := by
  cases hl : lookupS (s.label, idx) st.subs with
  | none => exact ninv_empty ..
  | some sub =>
    obtain ⟨s', hs', hsl, act', inp', w', hev', ha', hinv'⟩ := inv.2 _ _ _ hl
    cases step_unique (WF_nodup hwf) hs' hs hsl
    cases hev.symm.trans hev'
    cases ha.symm.trans ha'
    exact hinv'

theorem evalOutcome_ref (hwf : wf.WF = true) (inv : NInv eval base defs (n + 1) wf trig st)
    {s : Step} (hs : s ∈ wf.steps) {idx act inp o}
    (hdeps : s.deps.all (isDone st.top) = true)
    (hev : (gate eval trig (depRes st.top.done s.deps) s).evalAt idx = some (act, inp))
    (ho : evalOutcome eval base defs st.subs s.label idx act inp s.logic = some o) :
    o = (runLogic eval (runAt eval base defs (n + 1)) s.label idx act inp s.logic).1 := by
  rw [runLogic_runAt]
  revert ho
  -- an answer is there at two exits of `evalOutcome`: at once, or from a nested invocation whose steps are all done
  fun_cases evalOutcome eval base defs st.subs s.label idx act inp s.logic <;> intro ho <;> cases ho
  · next ha => rw [ha]
  · next w ha _ hall =>
    -- each inner step carries its reference value: the inner `collect` is the reference's
    rw [depRes_of_done inv.1 hdeps] at hev
    rw [ha, collect_of_complete (inv.sub hwf hs hev ha).top_inv (by simpa [allDone, List.all_eq_true] using hall)]
    rfl

end invariant

theorem ninv_step (eval : EvalFn) (base : RunFn) (defs : Env)
    (hdefs : ∀ name w, lookupL name defs = some w → w.WF = true) (n : Nat) (wf : Workflow) (trig : JVal)
    {st st' : NState} {e : NEvent} (hwf : wf.WF = true) (inv : NInv eval base defs n wf trig st)
    (h : nstep eval base defs n wf trig st e = some st') : NInv eval base defs n wf trig st' := by
  fun_induction nstep eval base defs n wf trig st e generalizing st'
  -- where the event is not enabled `h` reads `none = some st'`; three exits are left
  any_goals cases h
  · next wf trig st e0 =>
    -- outer event `e0` at depth 0
    obtain ⟨a, ha, rfl⟩ := Option.map_eq_some_iff.1 h
    -- `ha` speaks of `base`, the invariant of `runAt eval base defs 0`: the same function by definition
    exact inv_step eval (runAt eval base defs 0) trig wf hwf inv ha
  · next n wf trig st e0 =>
    -- outer event `e0` at depth n+1
    obtain ⟨a, ha, rfl⟩ := Option.map_eq_some_iff.1 h
    exact ⟨inv_stepG eval (runAt eval base defs (n + 1)) trig wf hwf inv.1
      (fun _ hs _ _ _ _ => evalOutcome_ref hwf inv hs) ha, inv.2⟩
  · next n wf trig st l idx e' s hf hen act inp hev w ha sub' hn ih =>
    -- inner event `e'` of the invocation of `w` made at `(l, idx)` on inputs `inp`; `hn`: it steps to `sub'`
    obtain ⟨hs, rfl, hdeps⟩ := ready_of_guard hf (not_or.1 (Bool.or_eq_true .. ▸ hen)).1
    rw [depRes_of_done inv.1 hdeps] at hev
    obtain ⟨name, hd⟩ := answerOf_nested ha
    have hsub' := ih (hdefs name w hd) (inv.sub hwf hs hev ha) hn
    refine ⟨inv.1, fun l2 idx2 sub2 hl2 => ?_⟩
    simp only [NState.subs, lookupS_setS] at hl2
    split at hl2
    · next hk => cases hk; cases hl2; exact ⟨s, hs, rfl, act, inp, w, hev, ha, hsub'⟩
    · exact inv.2 _ _ _ hl2

theorem ninv_run (eval : EvalFn) (base : RunFn) (defs : Env)
    (hdefs : ∀ name w, lookupL name defs = some w → w.WF = true) (n : Nat) (wf : Workflow) (trig : JVal)
    (hwf : wf.WF = true) (σ : List NEvent) {st st' : NState}
    (inv : NInv eval base defs n wf trig st) (h : nrunEvents eval base defs n wf trig σ st = some st') :
    NInv eval base defs n wf trig st' := by
  fun_induction nrunEvents eval base defs n wf trig σ st
  · cases h; exact inv
  · cases h
  · next he ih => exact ih (ninv_step eval base defs hdefs n wf trig hwf inv he) h

theorem nrunEvents_zero_here (eval : EvalFn) (base : RunFn) (defs : Env) (wf : Workflow) (trig : JVal)
    (σ : List Event) (a : AState) (subs : List (Frame × NState)) :
    (nrunEvents eval base defs 0 wf trig (σ.map .here) (.mk a subs)).map (·.top) =
      runEvents eval base trig wf σ a := by
  fun_induction runEvents eval base trig wf σ a
  · rfl
  · next he => simp only [List.map_cons, nrunEvents, nstep, NState.top, he]; rfl
  · next he ih => simp only [List.map_cons, nrunEvents, nstep, NState.top, NState.subs, he]; exact ih

/-- for `decide` over a concrete environment -/
theorem defsWF_of_check {defs : Env} (h : (defs.all fun d => d.2.WF) = true) :
    ∀ name w, lookupL name defs = some w → w.WF = true :=
  fun _ _ hl => List.all_eq_true.1 h _ (lookupL_mem hl)

/-- for `decide` on a concrete nested schedule -/
theorem validCompleteNested_of_check {eval : EvalFn} {base : RunFn} {defs : Env} {n : Nat} {trig : JVal}
    {wf : Workflow} {σ : List NEvent}
    (h : (match nrunEvents eval base defs n wf trig σ .empty with
      | some st => allDone wf st.top
      | none => false) = true) : ValidCompleteNested eval base defs n trig wf σ := by
  cases hr : nrunEvents eval base defs n wf trig σ .empty with
  | none => simp [hr] at h
  | some st => exact ⟨st, hr, by simpa [hr, allDone, List.all_eq_true] using h⟩

end Koreo.Workflow
