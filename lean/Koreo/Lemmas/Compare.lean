/-
  C04 / C05: the comparator (`validateMatch/vmO/vmL/vmK`) and its specification (`meetsB/meetsO/meetsL/meetsK`)
  read one piece at a time.

  What every induction over the two needs: on a map with well-formed directive values (`dirValsOk`) the code's
  parse of the directives IS the specification's `specDirs`; under string key fields the key functions never
  raise; the dictionary `keyedDict` builds is read through `hasKey` / `laMember`.

  Both loops over a target map do the same thing for one binding: find the value it is compared with and
  compare it under the directives of its key.  That step has a name on each side (`vmVal`, `meetsVal`, and
  `laOkVal` for the shape asked of the last-applied tree; `KeyMeets` is what `meetsO` asks of a binding, as a
  proposition), and each loop a cons-iff stated with it; the theorems about the recursions are proved from
  these, binding by binding.  A map is met iff `KeyMeets` holds of every binding, and `KeyMeets` of a binding
  only looks at `live[k]` and `lastApplied[k]`, so an edit at one key only has to be justified at that key.
-/
import Koreo.Compare
import Koreo.CompareWF
import Koreo.Lemmas.Json

namespace Koreo.Compare
open Koreo Koreo.JVal

@[simp] theorem Res.join_ok_left (r : Res) : Res.join .ok r = r := by cases r <;> rfl
@[simp] theorem Res.join_ok_right (r : Res) : Res.join r .ok = r := by cases r <;> rfl

theorem Res.join_eq_ok {a b : Res} : a.join b = .ok ↔ a = .ok ∧ b = .ok := by
  cases a <;> cases b <;> simp [Res.join]

theorem Res.join_mayRaise (a b : Res) : (a.join b).mayRaise = (a.mayRaise || b.mayRaise) := by
  cases a <;> cases b <;> simp [Res.join, Res.mayRaise]

theorem ite_ok_iff {b : Bool} : (if b then Res.ok else Res.differ) = .ok ↔ b = true := by
  cases b <;> simp

theorem scalarMatch_eq_scalarEq (t a : JVal) (ht : isScalar t = true) (ha : isScalar a = true) :
    scalarMatch t a = scalarEq t a := by
  cases t <;> first | contradiction | (cases a <;> first | contradiction | rfl | skip)
  -- two integers: Python compares them as numbers, the model in eighths
  case int.int n m =>
    show (n * 8 == m * 8) = (n == m)
    rw [Bool.eq_iff_iff]; simp only [beq_iff_eq]; omega

theorem scalarEq_scalar_right {t a : JVal} (h : scalarEq t a = true) : isScalar a = true := by
  cases a with
  | arr _ | obj _ => cases t <;> cases h
  | _ => rfl

theorem scalarEq_refl {x : JVal} (h : isScalar x = true) : scalarEq x x = true := by
  cases x with
  | arr _ | obj _ => contradiction
  | _ => simp [scalarEq]

theorem subsetBy_congr {f g : JVal → JVal → Bool} {xs ys : List JVal}
    (h : ∀ x ∈ xs, ∀ y ∈ ys, f x y = g x y) : subsetBy f xs ys = subsetBy g xs ys := by
  rw [Bool.eq_iff_iff]
  simp only [subsetBy, List.all_eq_true, List.any_eq_true]
  exact forall₂_congr fun x hx => exists_congr fun y => and_congr_right fun hy => by rw [h x hx y hy]

theorem subsetBy_refl {eq : JVal → JVal → Bool} {xs : List JVal} (h : ∀ x ∈ xs, eq x x = true) :
    subsetBy eq xs xs = true := by
  simp only [subsetBy, List.all_eq_true, List.any_eq_true]
  exact fun x hx => ⟨x, hx, h x hx⟩

theorem setEqSpec_refl {xs : List JVal} (h : xs.all isScalar = true) : setEqSpec xs xs = true := by
  have hr : ∀ x ∈ xs, scalarEq x x = true := fun x hx => scalarEq_refl (List.all_eq_true.mp h x hx)
  simp only [setEqSpec, h, subsetBy_refl hr, subsetBy_refl (eq := fun l t => scalarEq t l) hr, Bool.and_self]

theorem setMatch_eq {txs : List JVal} (ht : txs.all isScalar = true) (axs : List JVal) :
    setMatch txs axs = if setEqSpec txs axs then .ok else .differ := by
  unfold setMatch setEqSpec
  by_cases he : (txs.isEmpty && axs.isEmpty) = true
  · simp only [Bool.and_eq_true, List.isEmpty_iff] at he
    rw [he.1, he.2]; rfl
  · by_cases ha : axs.all isScalar = true
    · have e1 : subsetBy scalarMatch txs axs = subsetBy scalarEq txs axs :=
        subsetBy_congr fun x hx y hy =>
          scalarMatch_eq_scalarEq x y (List.all_eq_true.mp ht x hx) (List.all_eq_true.mp ha y hy)
      have e2 : subsetBy (fun a t => scalarMatch t a) axs txs = subsetBy (fun l t => scalarEq t l) axs txs :=
        subsetBy_congr fun x hx y hy =>
          scalarMatch_eq_scalarEq y x (List.all_eq_true.mp ht y hy) (List.all_eq_true.mp ha x hx)
      simp only [he, ht, ha, e1, e2, Bool.not_true, Bool.or_self, Bool.false_eq_true, ↓reduceIte, Bool.true_and]
    · simp [he, ht, ha]

theorem eq_str_of_isStr {x : JVal} (h : isStr x = true) : ∃ s, x = .str s := by
  cases x with
  | str s => exact ⟨s, rfl⟩
  | _ => cases h

theorem keySet_of_strsOnly (v : Option JVal) (h : strsOnly v = true) : keySet v = some (strMembers v) := by
  match v, h with
  | none, _ => rfl
  | some (.arr xs), h =>
    have h : xs.all isStr = true := by simpa [strsOnly] using h
    -- no truthy member is unhashable: they are all strings
    have h1 : ((xs.filter truthy).any fun x => !isScalar x) = false := by
      rw [List.any_eq_false]
      intro x hx
      obtain ⟨s, rfl⟩ := eq_str_of_isStr (List.all_eq_true.mp h x (List.mem_filter.mp hx).1)
      simp [isScalar]
    simp only [keySet, pyIter, h1, strMembers, Bool.false_eq_true, ↓reduceIte]
    -- a truthy string is a non-empty one
    rw [List.filterMap_filter]
    refine congrArg some (Koreo.filterMap_congr fun x hx => ?_)
    obtain ⟨s, rfl⟩ := eq_str_of_isStr (List.all_eq_true.mp h x hx)
    show (if (!(s == "")) = true then some s else none) = if (s == "") = true then none else some s
    cases s == "" <;> rfl

theorem fields_of_strs (xs : List JVal) (h : xs.all isStr = true) : xs.filter truthy = specFields (.arr xs) :=
  List.filter_congr fun x hx => by
    obtain ⟨s, rfl⟩ := eq_str_of_isStr (List.all_eq_true.mp h x hx)
    rfl

theorem mapDirs_of_ok (m : List (String × JVal)) (h : (m.all fun kv => strsOnly (some kv.2)) = true) :
    mapDirs m = some (specMap (some (.obj m))) := by
  induction m with
  | nil => rfl
  | cons kv rest ih =>
    obtain ⟨k, f⟩ := kv
    rw [List.all_cons, Bool.and_eq_true] at h
    have ih := ih h.2
    simp only [specMap] at ih ⊢
    match f, h.1 with
    | .arr xs, h1 =>
      have hx : xs.all isStr = true := by simpa [strsOnly] using h1
      by_cases hk : k = ""
      · simp [mapDirs, hk, ih]
      · simp [mapDirs, hk, ih, pyIter, fields_of_strs xs hx]

theorem parseDirs_of_ok (tkvs : List (String × JVal)) (h : dirValsOk tkvs = true) :
    parseDirs tkvs = some (specDirs tkvs) := by
  simp only [dirValsOk, Bool.and_eq_true] at h
  obtain ⟨⟨h1, h2⟩, h3⟩ := h
  simp only [parseDirs, keySet_of_strsOnly _ h1, keySet_of_strsOnly _ h2, specDirs]
  match hm : lookup compareAsMap tkvs, h3 with
  | none, _ => simp [specMap]
  | some (.obj m), h3 => simp [mapDirs_of_ok m (by simpa [mapDirOk] using h3)]

theorem specFields_strs (v : JVal) : (specFields v).all isStr = true := by
  cases v with
  | arr xs =>
    rw [specFields, List.all_eq_true]
    intro x hx
    have := (List.mem_filter.mp hx).2
    cases x with
    | str _ => rfl
    | _ => cases this
  | _ => rfl

theorem fieldsFor_mem {k : String} {f : List JVal} {l : List (String × List JVal)}
    (h : fieldsFor k l = some f) : (k, f) ∈ l := by
  fun_induction fieldsFor k l with
  | case1 => cases h                                           -- no entry
  | case2 => cases h; exact List.mem_cons_self                 -- the first entry is `k`'s
  | case3 _ _ _ _ ih => exact List.mem_cons_of_mem _ (ih h)    -- it is further on

theorem specMap_strs (v : Option JVal) (k : String) (fields : List JVal)
    (h : fieldsFor k (specMap v) = some fields) : fields.all isStr = true := by
  unfold specMap at h
  split at h
  · obtain ⟨kv, -, e⟩ := List.mem_map.mp (fieldsFor_mem h)
    cases e
    exact specFields_strs _
  · cases h

theorem objKey_isSome (fields : List JVal) (hf : fields.all isStr = true) (kvs : List (String × JVal)) :
    ∃ k, objKey fields kvs = some k := by
  fun_induction objKey fields kvs with
  | case1 | case3 => exact ⟨_, rfl⟩     -- no field; the last field
  | case2 f fs kvs hp =>
    -- the key part of a field is `none`: not for a string field
    rw [List.all_cons, Bool.and_eq_true] at hf
    obtain ⟨s, rfl⟩ := eq_str_of_isStr hf.1
    cases hp
  | case4 f fs kvs p _ _ ih =>
    -- a field with others after it
    rw [List.all_cons, Bool.and_eq_true] at hf
    obtain ⟨k, hk⟩ := ih hf.2
    exact ⟨_, by rw [hk]; rfl⟩

theorem keyedDict_isSome (fields : List JVal) (hf : fields.all isStr = true) (xs : List JVal) :
    ∃ d, keyedDict fields xs = some d := by
  fun_induction keyedDict fields xs with
  | case1 | case2 => exact ⟨_, rfl⟩     -- no member; a map whose key and whose rest are there
  | case3 kvs rest hno ih =>
    -- a map whose key or whose rest fails: under string fields neither does
    obtain ⟨d, hd⟩ := ih
    obtain ⟨k, hk⟩ := objKey_isSome fields hf kvs
    exact (hno k d hk hd).elim
  | case4 _ _ _ ih => exact ih          -- a member that is no map is passed over

theorem listToObject_isSome (fields : List JVal) (hf : fields.all isStr = true) (v : JVal) :
    ∃ l, listToObject fields v = some l := by
  fun_cases listToObject fields v with
  | case1 xs => obtain ⟨d, hd⟩ := keyedDict_isSome fields hf xs; exact ⟨_, by rw [hd]; rfl⟩   -- a list of maps
  | case2 | case3 => exact ⟨_, rfl⟩     -- any other value is `None`

theorem hasKey_cons (fields : List JVal) (k : String) (x : JVal) (xs : List JVal) :
    hasKey fields k (x :: xs) = (memberKey fields x == some k || hasKey fields k xs) := by
  cases x <;> rfl

theorem hasKey_iff (fields : List JVal) (k : String) : ∀ xs : List JVal,
    hasKey fields k xs = true ↔ ∃ l ∈ xs, memberKey fields l = some k
  | [] => by simp [hasKey]
  | x :: xs => by
    rw [hasKey_cons, Bool.or_eq_true, beq_iff_eq, hasKey_iff fields k xs]
    simp only [List.mem_cons, or_and_right, exists_or, exists_eq_left]

theorem laMember_spec {fields : List JVal} {key : String} {xs : List JVal} (h : hasKey fields key xs = true) :
    laMember fields key xs ∈ xs ∧ memberKey fields (laMember fields key xs) = some key := by
  fun_induction laMember fields key xs with
  | case1 => cases h
  | case2 m rest hr ih => exact ⟨List.mem_cons_of_mem _ (ih hr).1, (ih hr).2⟩   -- a later member has the key
  | case3 m rest _ hm => exact ⟨List.mem_cons_self, beq_iff_eq.mp hm⟩           -- `m` is the last one with it
  | case4 m rest hr hm => rw [hasKey_cons, Bool.or_eq_true] at h; exact (h.elim hm hr).elim   -- nobody has it

theorem laMember_null (fields : List JVal) (key : String) (xs : List JVal) (h : hasKey fields key xs = false) :
    laMember fields key xs = .null := by
  fun_induction laMember fields key xs with
  | case1 => rfl
  | case2 m rest hr => rw [hasKey_cons, hr, Bool.or_true] at h; cases h         -- a later member has the key
  | case3 m rest _ hm => rw [hasKey_cons, hm] at h; cases h                     -- `m` has it
  | case4 m rest _ _ ih => rw [hasKey_cons, Bool.or_eq_false_iff] at h; exact ih h.2

theorem keyedDict_lookup (fields : List JVal) (xs : List JVal) (d : List (String × JVal)) (ho : allObj xs = true)
    (h : keyedDict fields xs = some d) (key : String) :
    lookup key d = if hasKey fields key xs then some (laMember fields key xs) else none := by
  fun_induction keyedDict fields xs generalizing d key with
  | case1 => cases h; rfl
  | case2 mkvs xs k d' hd hk ih =>
    -- a map with key `k` before the members `xs`, whose dictionary is `d'`:
    -- the earlier member is dropped exactly when a later one has its key
    replace ih := ih d' ho hd
    have hin : (lookup k d').isSome = hasKey fields k xs := by
      rw [ih k]; cases hasKey fields k xs <;> rfl
    rw [hin] at h
    simp only [hasKey, laMember, memberKey, hk]
    by_cases hke : k = key
    · subst hke
      cases hh : hasKey fields k xs <;> rw [hh] at h <;> cases h
      · simp
      · simp [ih k, hh]
    · cases hh : hasKey fields k xs <;> rw [hh] at h <;> cases h <;> simp [lookup, hke, ih key]
  | case3 => cases h                    -- the key or the rest fails
  | case4 x xs hx =>
    -- a member that is no map: there is none (`ho`)
    match x, hx, ho with
    | .obj kvs, hx, _ => exact (hx kvs rfl).elim

theorem la_lookup (fields : List JVal) (lav : JVal) (l : Option (List (String × JVal)))
    (h : listToObject fields lav = some l) (key : String) :
    (lookup key (l.getD [])).getD .null = laMember fields key (laMembers lav) := by
  cases lav with
  | arr xs =>
    rw [listToObject] at h
    split at h
    next ho =>
      obtain ⟨d, hd, e⟩ := Option.map_eq_some_iff.mp h
      cases e
      simp only [Option.getD_some, laMembers, ho, ↓reduceIte]
      rw [keyedDict_lookup fields xs d ho hd key]
      cases hk : hasKey fields key xs
      · exact (laMember_null fields key xs hk).symm
      · rfl
    next ho =>
      cases h
      simp [laMembers, ho, laMember]
  | _ => cases h; rfl

theorem laVal_of_lookup {S : List (String × JVal)} {k : String} {v : JVal} (h : lookup k S = some v) :
    laVal S k = v := by
  simp only [laVal, h, Option.getD_some]

theorem laVal_stripO {k : String} (hd : isDirective k = false) (kvs : List (String × JVal)) :
    laVal (stripO kvs) k = strip ((lookup k kvs).getD .null) := by
  rw [laVal, lookup_stripO hd]
  cases lookup k kvs <;> rfl

theorem laAt_of_ok (la : JVal) (k : String) (h : laMapOk la = true) :
    laAt la k = .val (laVal (laObjKvs la) k) := by
  -- a map by definition; any other value is falsy (`h`), and every falsy kind of value answers `.val .null`
  cases la <;> simp_all [laMapOk, laAt, laObjKvs, laVal, truthy]

theorem laItems_of_ok (la : JVal) (h : laArrOk la = true) : laItems la = some (laArrItems la) := by
  cases la <;> simp_all [laArrOk, laItems, laArrItems, truthy]

theorem mergePatch_obj (live : JVal) (pkvs : List (String × JVal)) :
    mergePatch live (.obj pkvs) = .obj (mergePatchO (laObjKvs live) pkvs) :=
  mergePatch_obj_eq live pkvs

theorem wfB_obj {kvs : List (String × JVal)} :
    wfB (.obj kvs) = true ↔ dirValsOk kvs = true ∧ wfO (specDirs kvs) kvs = true := by
  rw [wfB.eq_1, Bool.and_eq_true]

theorem wfB_arr (xs : List JVal) : wfB (.arr xs) = wfL xs := wfB.eq_2 xs

theorem wfO_cons {d : Dirs} {k : String} {v : JVal} {rest : List (String × JVal)} :
    wfO d ((k, v) :: rest) = true ↔
      (isDirective k = false → keyDirOk d k v = true) ∧ wfB v = true ∧ wfO d rest = true := by
  rw [wfO.eq_2, Bool.and_eq_true, Bool.and_eq_true, and_assoc]
  cases isDirective k <;> simp

theorem wfL_cons {x : JVal} {xs : List JVal} : wfL (x :: xs) = true ↔ wfB x = true ∧ wfL xs = true := by
  rw [wfL.eq_2, Bool.and_eq_true]

theorem keysNoDup_iff : ∀ {kvs : List (String × JVal)}, keysNoDup kvs = true ↔ (keys kvs).Nodup
  | [] => by simp [keysNoDup, keys]
  | (k, v) :: rest => by
    rw [keysNoDup, Bool.and_eq_true, Option.isNone_iff_eq_none, lookup_eq_none_iff, keysNoDup_iff,
      nodup_keys_cons]

theorem noDupB_obj {kvs : List (String × JVal)} :
    noDupB (.obj kvs) = true ↔ (keys kvs).Nodup ∧ noDupO kvs = true := by
  rw [noDupB.eq_2, Bool.and_eq_true, keysNoDup_iff]

theorem noDupB_arr (xs : List JVal) : noDupB (.arr xs) = noDupL xs := noDupB.eq_1 xs

theorem noDupO_cons {k : String} {v : JVal} {rest : List (String × JVal)} :
    noDupO ((k, v) :: rest) = true ↔ noDupB v = true ∧ noDupO rest = true := by
  rw [noDupO.eq_2, Bool.and_eq_true]

theorem noDupL_cons {x : JVal} {xs : List JVal} :
    noDupL (x :: xs) = true ↔ noDupB x = true ∧ noDupL xs = true := by
  rw [noDupL.eq_2, Bool.and_eq_true]

theorem noDupO_iff : ∀ {l : List (String × JVal)}, noDupO l = true ↔ ∀ kv ∈ l, noDupB kv.2 = true
  | [] => by simp [noDupO]
  | (k, v) :: rest => by rw [noDupO_cons, noDupO_iff, List.forall_mem_cons]

theorem noDupB_of_lookup {tkvs : List (String × JVal)} {k : String} {v : JVal} (hn : noDupB (.obj tkvs) = true)
    (hl : lookup k tkvs = some v) : noDupB v = true :=
  noDupO_iff.mp (noDupB_obj.mp hn).2 _ (lookup_mem hl)

theorem noDupB_insert {k : String} {v : JVal} {l : List (String × JVal)} (hv : noDupB v = true)
    (hl : noDupB (.obj l) = true) : noDupB (.obj (JVal.insert k v l)) = true := by
  rw [noDupB_obj] at hl ⊢
  exact ⟨nodup_keys_insert _ _ hl.1,
    noDupO_iff.mpr (forall_mem_insert hv (noDupO_iff.mp hl.2))⟩

theorem noDupB_getD {kvs : List (String × JVal)} {k : String} {sub : List (String × JVal)}
    (hn : noDupB (.obj kvs) = true) (h : (lookup k kvs).getD (.obj []) = .obj sub) : noDupB (.obj sub) = true := by
  cases hl : lookup k kvs with
  | none => rw [hl] at h; cases h; rfl
  | some v => rw [hl] at h; cases h; exact noDupB_of_lookup hn hl

theorem noNullsO_iff : ∀ {l : List (String × JVal)}, noNullsO l = true ↔ ∀ kv ∈ l, noNullsB kv.2 = true
  | [] => by simp [noNullsO]
  | (k, v) :: rest => by rw [noNullsO.eq_2, Bool.and_eq_true, noNullsO_iff, List.forall_mem_cons]

theorem meetsB_obj_iff {m : Mode} {tkvs : List (String × JVal)} {live la : JVal} :
    meetsB m (.obj tkvs) live la = true ↔ ∃ lkvs, live = .obj lkvs ∧ (m == .excl || laMapOk la) = true ∧
      meetsO m (specDirs tkvs) lkvs (laObjKvs la) tkvs = true := by
  cases live <;> rw [meetsB.eq_def] <;> simp

theorem meetsB_arr_iff {m : Mode} {txs : List JVal} {live la : JVal} :
    meetsB m (.arr txs) live la = true ↔ ∃ lxs, live = .arr lxs ∧ (m == .excl || laArrOk la) = true ∧
      meetsL m txs lxs (laArrItems la) = true := by
  cases live <;> rw [meetsB.eq_def] <;> simp

theorem meetsB_scalar {t : JVal} (ht : isScalar t = true) (m : Mode) (live la : JVal) :
    meetsB m t live la = scalarEq t live := by
  cases t with
  | arr _ | obj _ => contradiction
  | _ => rw [meetsB.eq_def]

theorem vm_scalar {t : JVal} (ht : isScalar t = true) (a la : JVal) (s : Bool) :
    validateMatch t a la s = if isScalar a && scalarMatch t a then .ok else .differ := by
  cases t with
  | arr _ | obj _ => contradiction
  | _ => cases a <;> rfl

theorem vm_scalar_ok {t : JVal} (ht : isScalar t = true) {a la la' : JVal} {s : Bool} {m : Mode} :
    validateMatch t a la s = .ok ↔ meetsB m t a la' = true := by
  rw [vm_scalar ht, ite_ok_iff, Bool.and_eq_true, meetsB_scalar ht]
  constructor
  · rintro ⟨ha, h⟩; rwa [← scalarMatch_eq_scalarEq t a ht ha]
  · intro h
    have ha := scalarEq_scalar_right h
    exact ⟨ha, by rwa [scalarMatch_eq_scalarEq t a ht ha]⟩

theorem vm_obj {tkvs : List (String × JVal)} (hd : dirValsOk tkvs = true) (akvs : List (String × JVal)) (la : JVal)
    (s : Bool) : validateMatch (.obj tkvs) (.obj akvs) la s = vmO (specDirs tkvs) akvs la tkvs := by
  rw [validateMatch.eq_1, parseDirs_of_ok tkvs hd]

theorem vm_obj_ok {tkvs : List (String × JVal)} {a la : JVal} {s : Bool} (hd : dirValsOk tkvs = true)
    (h : validateMatch (.obj tkvs) a la s = .ok) :
    ∃ akvs, a = .obj akvs ∧ vmO (specDirs tkvs) akvs la tkvs = .ok := by
  cases a with
  | obj akvs => exact ⟨akvs, rfl, vm_obj hd akvs la s ▸ h⟩
  | _ => contradiction

theorem vm_asSet {txs : List JVal} (ht : txs.all isScalar = true) (cv la : JVal) :
    validateMatch (.arr txs) cv la true = if setSpecOf (.arr txs) cv then .ok else .differ := by
  cases cv with
  | arr axs => rw [validateMatch.eq_4, if_pos rfl]; exact setMatch_eq ht _
  | _ => rw [validateMatch.eq_def]; rfl

theorem vm_asSet_irrelevant (t a la : JVal) (s : Bool) (h : isArr t = false) :
    validateMatch t a la s = validateMatch t a la false := by
  cases t with
  | arr _ => contradiction
  | _ => rw [validateMatch.eq_def, validateMatch.eq_def]

/- `vmL.eq_2` is the catch-all equation; the goal it leaves is its side condition, "the arguments are not two conses" -/
theorem vmL_nil_left (axs items : List JVal) : vmL [] axs items = .ok := by
  rw [vmL.eq_2]; intro _ _ _ _ h; cases h

theorem vmL_nil_right (txs items : List JVal) : vmL txs [] items = .ok := by
  rw [vmL.eq_2]; intro _ _ _ _ _ h; cases h

theorem vmL_cons_ok {t a : JVal} {ts as items : List JVal} :
    vmL (t :: ts) (a :: as) items = .ok ↔
      validateMatch t a (items.head?.getD .null) false = .ok ∧ vmL ts as items.tail = .ok := by
  rw [vmL.eq_1]
  cases validateMatch t a (items.head?.getD .null) false <;> simp

theorem vm_arr_of_laOk {la : JVal} (hla : laArrOk la = true) (txs axs : List JVal) :
    validateMatch (.arr txs) (.arr axs) la false =
      if txs.length = axs.length then vmL txs axs (laArrItems la) else .differ := by
  rw [validateMatch.eq_4, laItems_of_ok la hla]
  cases txs <;> cases axs <;> simp [vmL_nil_left]

theorem vm_arr_ok {txs : List JVal} {a la : JVal} (h : validateMatch (.arr txs) a la false = .ok) :
    ∃ axs items, a = .arr axs ∧ txs.length = axs.length ∧ vmL txs axs items = .ok := by
  cases a with
  | arr axs =>
    rw [validateMatch.eq_4] at h
    simp only [Bool.false_eq_true, ↓reduceIte] at h
    refine ⟨axs, ?_⟩
    split at h
    next he =>
      simp only [Bool.and_eq_true, List.isEmpty_iff] at he
      exact ⟨[], rfl, by rw [he.1, he.2], by rw [he.1]; exact vmL_nil_left _ _⟩
    next =>
      split at h
      next => cases h
      next hlen =>
        cases hi : laItems la with
        | none => rw [hi] at h; cases h
        | some items => rw [hi] at h; exact ⟨items, rfl, by simpa using hlen, h⟩
  | _ => contradiction

theorem meetsL_length (m : Mode) : ∀ (txs lxs items : List JVal), meetsL m txs lxs items = true →
    txs.length = lxs.length
  | [], [], _, _ => rfl
  | [], _ :: _, _, h => by contradiction
  | _ :: _, [], _, h => by contradiction
  | t :: ts, l :: ls, items, h => by
    rw [meetsL.eq_2, Bool.and_eq_true] at h
    rw [List.length_cons, List.length_cons, meetsL_length m ts ls _ h.2]

/-- the binding is looked at by `meetsO`: not a directive key and, in mode `excl`, neither `ownerReferences` nor
    last-applied-directed -/
def compared (m : Mode) (d : Dirs) (k : String) : Bool :=
  !isDirective k && !(m == .excl && (k == ownerReferences || d.lastApplied.contains k))

theorem compared_full {d : Dirs} {k : String} : compared .full d k = true ↔ isDirective k = false := by
  simp [compared, show (Mode.full == Mode.excl) = false from rfl]

theorem compared_excl {d : Dirs} {k : String} (h : compared .excl d k = true) :
    skippedKey k = false ∧ d.lastApplied.contains k = false := by
  simpa [compared, skippedKey, show (Mode.excl == Mode.excl) = true from rfl, not_or, and_assoc] using h

theorem cmpValue_lastApplied {d : Dirs} {k : String} (h : d.lastApplied.contains k = true)
    (L : List (String × JVal)) (lav : JVal) : cmpValue d k L lav = some lav := by
  simp only [cmpValue, h, ↓reduceIte]

theorem cmpValue_live {d : Dirs} {k : String} (h : d.lastApplied.contains k = false)
    (L : List (String × JVal)) (lav : JVal) : cmpValue d k L lav = lookup k L := by
  simp only [cmpValue, h, Bool.false_eq_true, ↓reduceIte]

/-- where the live value is the last-applied value it does not matter which of the two is compared -/
theorem cmpValue_self (d : Dirs) {k : String} {L : List (String × JVal)} {v : JVal} (h : lookup k L = some v) :
    cmpValue d k L v = some v := by
  simp only [cmpValue, h, ite_self]

/-- the innermost `match fieldsFor k d.asMap` of `vmO` -/
def vmVal (d : Dirs) (k : String) (tv cv lav : JVal) : Res :=
  match fieldsFor k d.asMap with
  | some fields =>
    match tv with
    | .arr tms =>
      if allObj tms then
        keyedDispatch (keyedDict fields tms) (listToObject fields cv) (listToObject fields lav)
          fun adict ldict => vmK fields adict ldict tms
      else keyedNone fields cv lav
    | _ => keyedNone fields cv lav
  | none => validateMatch tv cv lav (d.asSet.contains k)

/-- the innermost `match fieldsFor k d.asMap` of `meetsO` -/
def meetsVal (m : Mode) (d : Dirs) (k : String) (tv cv lav : JVal) : Bool :=
  match fieldsFor k d.asMap with
  | some fields =>
    (match tv, cv with
     | .arr tms, .arr lms => (m == .excl || allObj lms) && meetsK m fields lms (laMembers lav) tms
     | _, _ => false)
  | none => if d.asSet.contains k && isArr tv then setSpecOf tv cv else meetsB m tv cv lav

/-- the innermost `match fieldsFor k d.asMap` of `laOkO` -/
def laOkVal (d : Dirs) (k : String) (tv lav : JVal) : Bool :=
  match fieldsFor k d.asMap with
  | some fields =>
    (match tv with
     | .arr tms => laOkK fields (laMembers lav) tms
     | _ => true)
  | none => laOkB tv lav

theorem vmO_cons (d : Dirs) (akvs : List (String × JVal)) (la : JVal) (k : String) (tv : JVal)
    (rest : List (String × JVal)) :
    vmO d akvs la ((k, tv) :: rest) =
      (if skippedKey k then Res.ok
       else match laAt la k with
        | .junkRaise => .raised
        | .junkIn => if !d.lastApplied.contains k && (lookup k akvs).isNone then .differ else .raised
        | .val lav =>
          match cmpValue d k akvs lav with
          | none => .differ
          | some cv => vmVal d k tv cv lav).join (vmO d akvs la rest) := by
  rw [vmO.eq_2]; rfl

section steps
variable (d : Dirs) (akvs : List (String × JVal)) (la : JVal) (k : String) (tv : JVal)
  (rest : List (String × JVal))

theorem vmO_cons_keyedNone (hs : skippedKey k = false) {lav cv : JVal} {fields : List JVal}
    (h1 : laAt la k = .val lav) (h2 : cmpValue d k akvs lav = some cv)
    (h3 : fieldsFor k d.asMap = some fields)
    (h4 : ∀ tms, tv = .arr tms → allObj tms = false) :
    vmO d akvs la ((k, tv) :: rest) = (keyedNone fields cv lav).join (vmO d akvs la rest) := by
  rw [vmO_cons]
  simp only [hs, Bool.false_eq_true, ↓reduceIte, h1, h2, vmVal, h3]
  cases tv with
  | arr tms => simp only [h4 tms rfl, Bool.false_eq_true, ↓reduceIte]
  | _ => rfl

end steps

theorem isDirective_of_not_skipped {k : String} (h : skippedKey k = false) : isDirective k = false :=
  (Bool.or_eq_false_iff.mp h).1

theorem vmO_cons_ok {d : Dirs} {akvs : List (String × JVal)} {la : JVal} {k : String} {tv : JVal}
    {rest : List (String × JVal)} :
    vmO d akvs la ((k, tv) :: rest) = .ok ↔
      (skippedKey k = false → ∃ lav cv, laAt la k = .val lav ∧ cmpValue d k akvs lav = some cv ∧
        vmVal d k tv cv lav = .ok) ∧ vmO d akvs la rest = .ok := by
  rw [vmO_cons, Res.join_eq_ok]
  refine and_congr_left fun _ => ?_
  cases skippedKey k
  · simp only [Bool.false_eq_true, ↓reduceIte, true_imp_iff]
    cases laAt la k with
    | junkRaise => simp
    | junkIn => simp only [reduceCtorEq, false_and, exists_false, iff_false]; split <;> simp
    | val lav =>
      simp only [LaAt.val.injEq, exists_and_left, exists_eq_left']
      cases cmpValue d k akvs lav <;> simp
  · simp

theorem vmO_cons_of_laOk {d : Dirs} {akvs : List (String × JVal)} {la : JVal} {k : String} (tv : JVal)
    (rest : List (String × JVal)) (hs : skippedKey k = false) (hla : laMapOk la = true) :
    vmO d akvs la ((k, tv) :: rest) =
      (match cmpValue d k akvs (laVal (laObjKvs la) k) with
       | none => Res.differ
       | some cv => vmVal d k tv cv (laVal (laObjKvs la) k)).join (vmO d akvs la rest) := by
  rw [vmO_cons, hs, laAt_of_ok la k hla]; rfl

theorem meetsO_cons (m : Mode) (d : Dirs) (L LA : List (String × JVal)) (k : String) (tv : JVal)
    (rest : List (String × JVal)) :
    meetsO m d L LA ((k, tv) :: rest) =
      ((!compared m d k ||
        match cmpValue d k L (laVal LA k) with
        | none => false
        | some cv => meetsVal m d k tv cv (laVal LA k)) && meetsO m d L LA rest) := by
  rw [meetsO.eq_2]
  unfold compared meetsVal
  cases isDirective k <;> cases (m == .excl && (k == ownerReferences || d.lastApplied.contains k)) <;> rfl

/-- what `meetsO` asks of one target binding (`meetsO_cons_iff`) -/
def KeyMeets (m : Mode) (d : Dirs) (L LA : List (String × JVal)) (k : String) (tv : JVal) : Prop :=
  compared m d k = true →
    ∃ cv, cmpValue d k L (laVal LA k) = some cv ∧ meetsVal m d k tv cv (laVal LA k) = true

theorem meetsO_cons_iff {m : Mode} {d : Dirs} {L LA : List (String × JVal)} {k : String} {tv : JVal}
    {rest : List (String × JVal)} :
    meetsO m d L LA ((k, tv) :: rest) = true ↔ KeyMeets m d L LA k tv ∧ meetsO m d L LA rest = true := by
  rw [meetsO_cons, Bool.and_eq_true, KeyMeets]
  refine and_congr_left fun _ => ?_
  cases compared m d k
  · simp
  · cases cmpValue d k L (laVal LA k) <;> simp

theorem laOkO_cons {d : Dirs} {lakvs : List (String × JVal)} {k : String} {tv : JVal}
    {rest : List (String × JVal)} :
    laOkO d lakvs ((k, tv) :: rest) = true ↔
      (skippedKey k = false → laOkVal d k tv (laVal lakvs k) = true) ∧ laOkO d lakvs rest = true := by
  rw [laOkO.eq_2, Bool.and_eq_true]
  cases skippedKey k
  · simp only [Bool.false_eq_true, ↓reduceIte, forall_const]; exact Iff.rfl
  · simp

section val
variable {m : Mode} {d : Dirs} {k : String} {tv cv lav : JVal} {fields tms : List JVal}

theorem meetsVal_plain (hf : fieldsFor k d.asMap = none) :
    meetsVal m d k tv cv lav =
      if d.asSet.contains k && isArr tv then setSpecOf tv cv else meetsB m tv cv lav := by
  simp only [meetsVal, hf]

theorem laOkVal_plain (hf : fieldsFor k d.asMap = none) : laOkVal d k tv lav = laOkB tv lav := by
  simp only [laOkVal, hf]

theorem laOkVal_keyed (hf : fieldsFor k d.asMap = some fields) :
    laOkVal d k (.arr tms) lav = laOkK fields (laMembers lav) tms := by
  simp only [laOkVal, hf]

theorem vmVal_plain (hf : fieldsFor k d.asMap = none) (hk : keyDirOk d k tv = true) :
    vmVal d k tv cv lav =
      if d.asSet.contains k && isArr tv then (if setSpecOf tv cv then .ok else .differ)
      else validateMatch tv cv lav false := by
  simp only [vmVal, hf]
  simp only [keyDirOk, hf] at hk
  cases hs : d.asSet.contains k
  · rfl
  · rw [hs] at hk
    cases tv with
    | arr txs => exact vm_asSet hk _ _
    | _ => exact vm_asSet_irrelevant _ _ _ _ rfl

theorem keyDirOk_set (hf : fieldsFor k d.asMap = none) (hs : (d.asSet.contains k && isArr tv) = true)
    (hk : keyDirOk d k tv = true) : ∃ txs, tv = .arr txs ∧ txs.all isScalar = true := by
  rw [Bool.and_eq_true] at hs
  cases tv with
  | arr txs => exact ⟨txs, rfl, by simpa only [keyDirOk, hf, hs.1, ↓reduceIte] using hk⟩
  | _ => cases hs.2

theorem keyDirOk_keyed (hf : fieldsFor k d.asMap = some fields) (hk : keyDirOk d k (.arr tms) = true) :
    allObj tms = true ∧ keysDistinct fields tms = true ∧
      fields.all fieldOk = true ∧ tms.all (keyValsScalar fields) = true := by
  simp only [keyDirOk, hf, Bool.and_eq_true] at hk
  exact ⟨hk.1.1, hk.1.2, hk.2.1, hk.2.2⟩

theorem meetsVal_keyed (hf : fieldsFor k d.asMap = some fields) :
    meetsVal m d k (.arr tms) cv lav = true ↔ ∃ lms, cv = .arr lms ∧ (m == .excl || allObj lms) = true ∧
      meetsK m fields lms (laMembers lav) tms = true := by
  simp only [meetsVal, hf]
  cases cv <;> simp

theorem vmVal_keyed (cv lav : JVal) (hf : fieldsFor k d.asMap = some fields) (hfs : fields.all isStr = true)
    (hto : allObj tms = true) :
    ∃ ldict, (∀ key, (lookup key ldict).getD .null = laMember fields key (laMembers lav)) ∧
      ((∃ lms adict, cv = .arr lms ∧ allObj lms = true ∧ keyedDict fields lms = some adict ∧
          vmVal d k (.arr tms) cv lav = vmK fields adict ldict tms) ∨
        (∀ lms, cv = .arr lms → allObj lms = false) ∧ vmVal d k (.arr tms) cv lav = .differ) := by
  obtain ⟨td, htd⟩ := keyedDict_isSome fields hfs tms
  obtain ⟨l, hl⟩ := listToObject_isSome fields hfs lav
  refine ⟨l.getD [], la_lookup fields lav l hl, ?_⟩
  simp only [vmVal, hf, hto, ↓reduceIte, htd, hl]
  fun_cases listToObject fields cv with
  | case1 lms hlo =>
    -- a list of maps
    obtain ⟨adict, had⟩ := keyedDict_isSome fields hfs lms
    exact .inl ⟨lms, adict, rfl, hlo, had, by rw [had]; rfl⟩
  | case2 lms hlo => exact .inr ⟨fun _ e => by cases e; simpa using hlo, rfl⟩   -- a list with a member that is no map
  | case3 _ hno => exact .inr ⟨fun lms e => (hno lms e).elim, rfl⟩                  -- no list

end val

theorem meetsVal_nonarr {m : Mode} {d : Dirs} {k : String} {tv cv lav : JVal}
    (h : isArr tv = false ∨ isArr cv = false) :
    meetsVal m d k tv cv lav = true ↔ fieldsFor k d.asMap = none ∧ meetsB m tv cv lav = true := by
  fun_cases meetsVal m d k tv cv lav with
  | case1 => rcases h with h | h <;> cases h    -- keyed, both lists
  | case2 _ _ _ hf => simp [hf]                 -- keyed, one of them no list
  | case4 _ _ hf => simp [hf]                   -- plain
  | case3 _ _ hf hs =>
    -- set-directed list against a value that is not a list: neither side holds
    rw [Bool.and_eq_true] at hs
    have hcv : isArr cv = false := h.resolve_left (by simp [hs.2])
    cases tv with
    | arr txs =>
      cases cv with
      | arr lxs => contradiction
      | _ => rw [meetsB.eq_def]; simp [setSpecOf]
    | _ => cases hs.2

section member
variable {fields : List JVal} {mkvs : List (String × JVal)} {key : String} {rest lms lams : List JVal}

theorem keysDistinct_cons :
    keysDistinct fields (.obj mkvs :: rest) = true ↔ ∃ key, objKey fields mkvs = some key ∧
      skippedKey key = false ∧ hasKey fields key rest = false ∧ keysDistinct fields rest = true := by
  simp only [keysDistinct, memberKey]
  cases objKey fields mkvs <;> simp [and_assoc]

theorem meetsK_cons_full (hkey : objKey fields mkvs = some key) :
    meetsK .full fields lms lams (.obj mkvs :: rest) = true ↔
      (hasKey fields key lms = true ∧ ∀ l ∈ lms, memberKey fields l = some key →
        meetsB .full (.obj mkvs) l (laMember fields key lams) = true) ∧
      meetsK .full fields lms lams rest = true := by
  rw [meetsK.eq_2, Bool.and_eq_true]
  simp only [hkey, show (Mode.full == Mode.full) = true from rfl, ↓reduceIte, Bool.and_eq_true, List.all_eq_true,
    Bool.or_eq_true, bne_iff_ne, ne_eq]
  refine and_congr_left fun _ => and_congr_right fun _ => forall₂_congr fun l _ => ?_
  exact Decidable.imp_iff_not_or.symm

theorem meetsK_cons_excl (hkey : objKey fields mkvs = some key) :
    meetsK .excl fields lms lams (.obj mkvs :: rest) = true ↔
      (∃ l ∈ lms, memberKey fields l = some key ∧
        meetsB .excl (.obj mkvs) l (laMember fields key lams) = true) ∧
      meetsK .excl fields lms lams rest = true := by
  rw [meetsK.eq_2, Bool.and_eq_true]
  simp only [hkey, show (Mode.excl == Mode.full) = false from rfl, Bool.false_eq_true, ↓reduceIte, List.any_eq_true,
    Bool.and_eq_true, beq_iff_eq]

theorem vmK_cons_ok {adict ldict : List (String × JVal)} (hkey : objKey fields mkvs = some key)
    (hs : skippedKey key = false) (hh : hasKey fields key rest = false)
    (hA : keyedDict fields lms = some adict) (hAo : allObj lms = true) :
    vmK fields adict ldict (.obj mkvs :: rest) = .ok ↔
      (hasKey fields key lms = true ∧
        validateMatch (.obj mkvs) (laMember fields key lms) ((lookup key ldict).getD .null) false = .ok) ∧
      vmK fields adict ldict rest = .ok := by
  rw [vmK.eq_2, Res.join_eq_ok]
  simp only [hkey, hs, hh, Bool.or_self, Bool.false_eq_true, ↓reduceIte, keyedDict_lookup fields lms adict hAo hA key]
  cases hasKey fields key lms <;> simp

end member

section
variable {m : Mode} {d : Dirs} {L LA : List (String × JVal)} {k : String} {tv : JVal}

theorem meetsO_iff_forall : ∀ {tkvs : List (String × JVal)},
    meetsO m d L LA tkvs = true ↔ ∀ kv ∈ tkvs, KeyMeets m d L LA kv.1 kv.2
  | [] => by simp [meetsO.eq_1]
  | (k, tv) :: rest => by rw [meetsO_cons_iff, meetsO_iff_forall, List.forall_mem_cons]

theorem KeyMeets.congr {L' LA' : List (String × JVal)} (h1 : lookup k L' = lookup k L)
    (h2 : lookup k LA' = lookup k LA) : KeyMeets m d L' LA' k tv ↔ KeyMeets m d L LA k tv := by
  unfold KeyMeets cmpValue laVal
  rw [h1, h2]

theorem KeyMeets.of_directive (h : isDirective k = true) : KeyMeets m d L LA k tv := by
  intro hc; simp [compared, h] at hc

theorem KeyMeets.nonarr_iff (hd : isDirective k = false) (ha : isArr tv = false) :
    KeyMeets .full d L LA k tv ↔
      fieldsFor k d.asMap = none ∧ ∃ cv, cmpValue d k L (laVal LA k) = some cv ∧
        meetsB .full tv cv (laVal LA k) = true := by
  simp only [KeyMeets, compared_full.mpr hd, true_imp_iff, meetsVal_nonarr (Or.inl ha)]
  constructor
  · rintro ⟨cv, h1, h2, h3⟩; exact ⟨h2, cv, h1, h3⟩
  · rintro ⟨h2, cv, h1, h3⟩; exact ⟨cv, h1, h2, h3⟩

/-- the value under `k` changes to `v`, in the map and in its use as last-applied tree alike; `hm` may assume
    that the value there before met `tv` -/
theorem KeyMeets.self_change {S S' : List (String × JVal)} {v : JVal} (hd : isDirective k = false)
    (ha : isArr tv = false) (hold : KeyMeets .full d S S k tv) (hl : lookup k S' = some v)
    (hm : meetsB .full tv (laVal S k) (laVal S k) = true → meetsB .full tv v v = true) :
    KeyMeets .full d S' S' k tv := by
  obtain ⟨hf, cv, hcv, hmo⟩ := (KeyMeets.nonarr_iff hd ha).mp hold
  -- whichever of the two was compared before, it was `laVal S k`
  have h0 : meetsB .full tv (laVal S k) (laVal S k) = true := by
    cases hla : d.lastApplied.contains k
    · rw [cmpValue_live hla] at hcv
      rw [laVal_of_lookup hcv] at hmo ⊢; exact hmo
    · rw [cmpValue_lastApplied hla] at hcv; cases hcv; exact hmo
  refine (KeyMeets.nonarr_iff hd ha).mpr ⟨hf, v, ?_, ?_⟩
  · rw [laVal_of_lookup hl]; exact cmpValue_self d hl
  · rw [laVal_of_lookup hl]; exact hm h0
end

theorem meets_obj_change {tkvs L L' : List (String × JVal)} {la la' : JVal}
    (h : meetsB .full (.obj tkvs) (.obj L) la = true) (hla : laMapOk la = true → laMapOk la' = true)
    (hk : ∀ kv ∈ tkvs, KeyMeets .full (specDirs tkvs) L (laObjKvs la) kv.1 kv.2 →
      KeyMeets .full (specDirs tkvs) L' (laObjKvs la') kv.1 kv.2) :
    meetsB .full (.obj tkvs) (.obj L') la' = true := by
  obtain ⟨_, e, hl, h⟩ := meetsB_obj_iff.mp h
  cases e
  exact meetsB_obj_iff.mpr
    ⟨_, rfl, hla hl, meetsO_iff_forall.mpr fun kv hkv => hk kv hkv (meetsO_iff_forall.mp h kv hkv)⟩

end Koreo.Compare
