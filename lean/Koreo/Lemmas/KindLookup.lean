/-
  Invariant of the discovery lock table when the lock is filed under the key of the result
  (`Cfg.lk` injective): whoever waits, waits on a lookup of ITS OWN key (`Inv`, with `Good`).

  Every transition changes the request table at one request that had not returned, which is what the frame rule
  `Inv.frame` (and its special case `Inv.set_req`) takes care of, so that `inv_step`, which goes through the five
  exits of `step` at which an event is enabled (its case principle), only has to account for what is new.
-/
import Koreo.KindLookup

namespace Koreo.KindLookup

/-- of the lookup behind event `ev` (an event is the request id of the owner that created it): it is still in flight,
    as owner of key `k`, or it has ended with `k`'s plural stored -/
def Good (c : Cfg) (s : St) (k : Key) (ev : Nat) : Prop :=
  s.reqs ev = some (.owner k) ∨ (s.isSet ev = true ∧ s.plural k = some (c.srv k))

/-- what the invariant asks of one entry of the request table -/
def Req.Ok (c : Cfg) (s : St) : Req → Prop
  | .owner _ => True
  | .waiting k ev => Good c s k ev
  | .done k p => p = some (c.srv k)

structure Inv (c : Cfg) (s : St) : Prop where
  plural_ok : ∀ k p, s.plural k = some p → p = c.srv k
  reqs_ok : ∀ r q, s.reqs r = some q → q.Ok c s
  locks_ok : ∀ l ev, s.locks l = some ev → ∃ k, c.lk k = l ∧ Good c s k ev
  set_done : ∀ ev, s.isSet ev = true → ∃ k p, s.reqs ev = some (.done k p)

theorem inv_cold (c : Cfg) : Inv c cold := by
  -- every table of `cold` is empty, so each clause has a premise `none = some _` or `false = true`
  constructor
  · intro k p h; cases h
  · intro r q h; cases h
  · intro l ev h; cases h
  · intro ev h; cases h

theorem upd_same {α β : Type} [DecidableEq α] (f : α → β) (a : α) (b : β) : upd f a b a = b := by
  simp [upd]

theorem upd_other {α β : Type} [DecidableEq α] (f : α → β) (a x : α) (b : β) (h : x ≠ a) :
    upd f a b x = f x := by
  simp [upd, h]

theorem upd_cases {α β : Type} [DecidableEq α] {f : α → β} {a x : α} {b y : β} (h : upd f a b x = y) :
    (x = a ∧ b = y) ∨ f x = y := by
  unfold upd at h
  split at h
  · next e => exact .inl ⟨e, h⟩
  · exact .inr h

theorem upd_of_eq {α β : Type} [DecidableEq α] {f : α → β} {a x : α} {b y : β} (h : f x = y)
    (hb : x = a → b = y) : upd f a b x = y := by
  by_cases e : x = a
  · rw [e, upd_same, ← hb e]
  · rw [upd_other _ _ _ _ e, h]

section
variable {c : Cfg} {s s' : St}

theorem Req.Ok.mono (hgood : ∀ k ev, Good c s k ev → Good c s' k ev) : ∀ {q : Req}, q.Ok c s → q.Ok c s'
  | .owner _, _ => trivial
  | .waiting k ev, h => hgood k ev h
  | .done _ _, h => h

/-- the frame rule every transition goes through: request `r` gets entry `q`.  `hr`: `r` had not returned, so no set
    event loses its `done` entry; `hgood`: `Good` is monotone; `hlocks` / `hset`: what may be new — a lock entry whose
    event is `Good` in `s'`, and `r` itself as a set event when it returns. -/
theorem Inv.frame (hi : Inv c s) (r : Nat) (q : Req)
    (hreqs : s'.reqs = upd s.reqs r (some q))
    (hr : ∀ k p, s.reqs r ≠ some (.done k p))
    (hgood : ∀ k ev, Good c s k ev → Good c s' k ev)
    (hplural : ∀ k p, s'.plural k = some p → p = c.srv k)
    (hq : q.Ok c s)
    (hlocks : ∀ l ev, s'.locks l = some ev → s.locks l = some ev ∨ ∃ k, c.lk k = l ∧ Good c s' k ev)
    (hset : ∀ ev, s'.isSet ev = true → s.isSet ev = true ∨ (ev = r ∧ ∃ k p, q = .done k p)) : Inv c s' := by
  refine ⟨hplural, ?_, ?_, ?_⟩
  · intro r' q' h
    rcases upd_cases (hreqs ▸ h) with ⟨-, hq'⟩ | h
    · cases hq'; exact hq.mono hgood
    · exact (hi.reqs_ok r' q' h).mono hgood
  · intro l ev h
    rcases hlocks l ev h with h | h
    · obtain ⟨k, hk, hg⟩ := hi.locks_ok l ev h
      exact ⟨k, hk, hgood k ev hg⟩
    · exact h
  · intro ev h
    rcases hset ev h with h | ⟨rfl, k, p, rfl⟩
    · obtain ⟨k, p, hd⟩ := hi.set_done ev h
      have : ev ≠ r := fun e => hr k p (e ▸ hd)
      exact ⟨k, p, by rw [hreqs, upd_other _ _ _ _ this, hd]⟩
    · exact ⟨k, p, by rw [hreqs, upd_same]⟩

theorem Good.of_reqs_upd {r : Nat} {q : Option Req} {locks : LKey → Option Nat}
    (hr : ∀ k', s.reqs r ≠ some (.owner k')) {k : Key} {ev : Nat} (h : Good c s k ev) :
    Good c { s with locks := locks, reqs := upd s.reqs r q } k ev := by
  rcases h with h | h
  · have : ev ≠ r := fun e => hr k (e ▸ h)
    exact .inl ((upd_other _ _ _ _ this).trans h)
  · exact .inr h

theorem Good.of_answer {r : Nat} {k : Key} {q : Option Req} {locks : LKey → Option Nat}
    (hr : s.reqs r = some (.owner k)) {k' : Key} {ev : Nat} (h : Good c s k' ev) :
    Good c ⟨upd s.plural k (some (c.srv k)), locks, upd s.isSet r true, upd s.reqs r q⟩ k' ev := by
  rcases h with h | h
  · by_cases e : ev = r
    · subst e
      cases hr.symm.trans h
      exact .inr ⟨upd_same .., upd_same ..⟩
    · exact .inl ((upd_other _ _ _ _ e).trans h)
  · exact .inr ⟨upd_of_eq h.1 fun _ => rfl, upd_of_eq h.2 fun e => by rw [e]⟩

theorem Inv.set_req (hi : Inv c s) {r : Nat} {q : Req}
    (hro : ∀ k, s.reqs r ≠ some (.owner k)) (hrd : ∀ k p, s.reqs r ≠ some (.done k p))
    (hq : q.Ok c s) : Inv c { s with reqs := upd s.reqs r (some q) } :=
  hi.frame r q rfl hrd (fun _ _ => Good.of_reqs_upd hro) hi.plural_ok hq
    (fun _ _ h => Or.inl h) (fun _ h => Or.inl h)

end

theorem inv_step (c : Cfg) (hinj : ∀ a b, c.lk a = c.lk b → a = b) {s s' : St} {e : Ev}
    (hi : Inv c s) (h : step c s e = some s') : Inv c s' := by
  revert h
  -- the five exits of `step` at which the event is enabled, in the order of its definition
  fun_cases step c s e <;> intro h <;> cases h
  · next r k hr p hp =>
    -- `call r k`, `k` remembered: returns at once
    exact hi.set_req (by simp [hr]) (by simp [hr]) (congrArg some (hi.plural_ok k p hp))
  · next r k hr _ ev0 hl =>
    -- `call r k`, a lookup in flight under this lock key, so (`lk` injective) a lookup of `k` itself: waits for it
    obtain ⟨k', hk', hg⟩ := hi.locks_ok _ _ hl
    cases hinj _ _ hk'
    exact hi.set_req (by simp [hr]) (by simp [hr]) hg
  · next r k hr _ _ =>
    -- `call r k`, nothing in flight: becomes the owner and files the lock
    refine hi.frame r _ rfl (by simp [hr]) (fun _ _ => Good.of_reqs_upd (by simp [hr])) hi.plural_ok trivial ?_
      (fun _ h => Or.inl h)
    intro l ev h
    rcases upd_cases h with ⟨rfl, hev⟩ | h
    · cases hev; exact Or.inr ⟨k, rfl, Or.inl (upd_same ..)⟩
    · exact Or.inl h
  · next r k hr =>
    -- `answer r` to the owner of `k`: the plural is remembered, the event set, the request returns
    refine hi.frame r _ rfl (by simp [hr]) (fun _ _ => Good.of_answer hr) ?_ rfl ?_ ?_
    · intro k' p hp
      rcases upd_cases hp with ⟨rfl, hp⟩ | hp
      · exact (Option.some.inj hp).symm
      · exact hi.plural_ok k' p hp
    · -- a lock entry is at most dropped
      intro l ev hl
      dsimp only at hl
      split at hl
      · exact Or.inl ((upd_cases hl).resolve_left nofun)
      · exact Or.inl hl
    · intro ev hs
      rcases upd_cases hs with ⟨e, -⟩ | hs
      · exact Or.inr ⟨e, k, _, rfl⟩
      · exact Or.inl hs
  · next r k ev0 hr hs0 =>
    -- `wake r`: the event waited for is set, so its lookup — of this very key — has ended
    refine hi.set_req (by simp [hr]) (by simp [hr]) ?_
    rcases hi.reqs_ok r _ hr with hg | hg
    · obtain ⟨k2, p2, hd2⟩ := hi.set_done ev0 hs0
      rw [hd2] at hg; cases hg
    · exact hg.2

theorem inv_run (c : Cfg) (hinj : ∀ a b, c.lk a = c.lk b → a = b) (σ : List Ev) {s s' : St}
    (hi : Inv c s) (h : run c s σ = some s') : Inv c s' := by
  fun_induction run c s σ
  · cases h; exact hi
  · cases h
  · next hs ih => exact ih (inv_step c hinj hi hs) h

/-- `hk` has the shape of the hypotheses of `C02.discovery_schedules_agree`, which applies this to both schedules -/
theorem answerOf_some (c : Cfg) (hinj : ∀ a b, c.lk a = c.lk b → a = b) {σ : List Ev} {r : Nat}
    {p : Option String} {k : Key} (h : answerOf c σ r = some p)
    (hk : ∀ s, run c cold σ = some s → ∃ p', s.reqs r = some (.done k p')) : p = some (c.srv k) := by
  unfold answerOf at h
  cases e : run c cold σ with
  | none => simp [e] at h
  | some s =>
    obtain ⟨q, hq⟩ := hk s e
    simp only [e, hq, Option.some.injEq] at h
    exact h ▸ (inv_run c hinj σ (inv_cold c) e).reqs_ok r _ hq

end Koreo.KindLookup
