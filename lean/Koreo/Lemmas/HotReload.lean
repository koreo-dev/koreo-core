/-
  Helper lemmas for C16: the inductive invariant of the hot-reload transition system.
  Property theorems live in `Props/C16.lean`.

  Every clause of the invariant speaks of one resource (`At`), and a resource that a step leaves alone
  keeps its clauses (`At.frame`).  Every (re)preparation and every effective delete is one change of a
  single resource `r` that its watchers are told about; `changeState` is that change in explicit form and
  `inv_changeState` the one preservation argument.  The rest is bookkeeping around it: `register`, the
  monitor emptying its queue (`bg_eq`), and the events it holds while it works through them (the waivers
  of `InvG`, `inv_drain`).
-/
import Koreo.HotReload

namespace Koreo.HotReload
variable {R : Type} [DecidableEq R] {Spec : Type}

@[simp] theorem upd_same {α : Type} (f : R → α) (a : R) (b : α) : upd f a b a = b := by simp [upd]
theorem upd_other {α : Type} (f : R → α) (a : R) (b : α) {x : R} (h : x ≠ a) : upd f a b x = f x := by
  simp [upd, h]
theorem upd_eq_self {α : Type} (f : R → α) (a : R) : upd f a (f a) = f := by
  funext x; unfold upd; split <;> simp [*]

/-- a change is on its way to `x`: its monitor re-prepares `x` when it reaches that event (`drain` drops
    only events not newer than the prepare start) -/
def Pending (s : State R Spec) (x : R) : Prop :=
  ∃ q, s.queue x = some q ∧ ∃ t ∈ q, s.prepT x < t

/-- Two waivers for the states inside a composite action: `r0` may be registered before it is cached
    (`qok`), and `r0`'s monitor may hold popped events `pend` that it has not processed yet.
    The eight clauses stand three times (`InvG`, `Inv`, `At`); a change to one goes through `inv_iff_invG`,
    `invG_iff_at`, `InvG.weaken`, `At.frame`, and the halves about the touched resource in
    `invG_emptyQueue`, `inv_changeState`, `invG_bgStart`. -/
structure InvG (decl : Spec → (R → Bool) → List R) (rank : R → Nat) (r0 : R) (qok : Bool) (pend : List Nat) (s : State R Spec) : Prop where
  cached : ∀ x e, s.cache x = some e → s.subs x = e.deps ∧ (s.queue x).isSome = true
  uncached : ∀ x, s.cache x = none →
    s.subs x = [] ∧ s.mon x = .none ∧ (s.queue x = none ∨ (x = r0 ∧ qok = true))
  watched : ∀ x e, s.cache x = some e → e.deps ≠ [] → s.mon x ≠ .none
  fresh : ∀ x e, s.cache x = some e → ∀ d ∈ e.deps,
    e.seen d = s.gen d ∨ Pending s x ∨ (x = r0 ∧ ∃ t ∈ pend, s.prepT x < t)
  prepLt : ∀ x e, s.cache x = some e → s.prepT x < s.clock
  evLt : ∀ x q, s.queue x = some q → ∀ t ∈ q, t < s.clock
  ranked : ∀ x, ∀ d ∈ s.subs x, rank d < rank x
  specOk : ∀ x e, s.cache x = some e → SpecRanked decl rank x e.spec

structure Inv (decl : Spec → (R → Bool) → List R) (rank : R → Nat) (s : State R Spec) : Prop where
  cached : ∀ x e, s.cache x = some e → s.subs x = e.deps ∧ (s.queue x).isSome = true
  uncached : ∀ x, s.cache x = none → s.subs x = [] ∧ s.mon x = .none ∧ s.queue x = none
  watched : ∀ x e, s.cache x = some e → e.deps ≠ [] → s.mon x ≠ .none
  fresh : ∀ x e, s.cache x = some e → ∀ d ∈ e.deps, e.seen d = s.gen d ∨ Pending s x
  prepLt : ∀ x e, s.cache x = some e → s.prepT x < s.clock
  evLt : ∀ x q, s.queue x = some q → ∀ t ∈ q, t < s.clock
  ranked : ∀ x, ∀ d ∈ s.subs x, rank d < rank x
  specOk : ∀ x e, s.cache x = some e → SpecRanked decl rank x e.spec

section
variable {decl : Spec → (R → Bool) → List R} {rank : R → Nat}

section
omit [DecidableEq R]

theorem inv_iff_invG {s : State R Spec} (r0 : R) : Inv decl rank s ↔ InvG decl rank r0 false [] s :=
  ⟨fun h => ⟨h.cached, fun x hx => let ⟨a, b, c⟩ := h.uncached x hx; ⟨a, b, .inl c⟩, h.watched,
      fun x e hx d hd => (h.fresh x e hx d hd).imp_right .inl, h.prepLt, h.evLt, h.ranked, h.specOk⟩,
   fun h => ⟨h.cached, fun x hx => let ⟨a, b, c⟩ := h.uncached x hx; ⟨a, b, c.resolve_right (by simp)⟩,
      h.watched, fun x e hx d hd => (h.fresh x e hx d hd).imp_right (·.resolve_right (by simp)),
      h.prepLt, h.evLt, h.ranked, h.specOk⟩⟩

theorem InvG.weaken {r0 : R} {qok qok' : Bool} {pend pend' : List Nat} {s : State R Spec}
    (h : InvG decl rank r0 qok pend s) (hq : qok = true → qok' = true)
    (hp : ∀ t ∈ pend, s.prepT r0 < t → ∃ t' ∈ pend', s.prepT r0 < t') : InvG decl rank r0 qok' pend' s :=
  { h with
    uncached := fun x hx => (h.uncached x hx).imp id (.imp id (.imp id (.imp id hq)))
    fresh := fun x e hx d hd =>
      (h.fresh x e hx d hd).imp id (.imp id fun ⟨e', t, ht, hlt⟩ => ⟨e', by subst e'; exact hp t ht hlt⟩) }

theorem Inv.toG {s : State R Spec} (h : Inv decl rank s) (r0 : R) (qok : Bool) (pend : List Nat) :
    InvG decl rank r0 qok pend s :=
  ((inv_iff_invG r0).1 h).weaken nofun nofun

theorem InvG.drop_pend {r : R} {t : Nat} {rest : List Nat} {s : State R Spec}
    (h : InvG decl rank r false (t :: rest) s) (ht : t ≤ s.prepT r) : InvG decl rank r false rest s :=
  h.weaken id fun t' ht' hlt => by
    rcases List.mem_cons.1 ht' with rfl | ht'
    · omega
    · exact ⟨t', ht', hlt⟩

theorem Inv.registered_of_mon {s : State R Spec} (h : Inv decl rank s) {r : R} (hm : s.mon r ≠ .none) :
    ∃ e q, s.cache r = some e ∧ s.queue r = some q := by
  cases hc : s.cache r with
  | none => exact absurd (h.uncached r hc).2.1 hm
  | some e =>
    obtain ⟨q, hq⟩ := Option.isSome_iff_exists.1 (h.cached r e hc).2
    exact ⟨e, q, rfl, hq⟩

theorem inv_init (decl : Spec → (R → Bool) → List R) (rank : R → Nat) : Inv decl rank (init : State R Spec) := by
  constructor <;> intros <;> simp [init] at *

end

-- `evq`: the queue after the event `t` has arrived if `c`.  Stated on the `if` of `notify`, literally, so
-- that these rewrite `notify` and `changeState` without unfolding anything.

section evq
variable {c : Prop} [Decidable c] {t : Nat} {q : Option (List Nat)}

theorem evq_isSome : (if c then q.map (t :: ·) else q).isSome = q.isSome := by split <;> simp

theorem evq_eq_none : (if c then q.map (t :: ·) else q) = none ↔ q = none := by split <;> simp

theorem evq_some {l0 : List Nat} (h : q = some l0) :
    ∃ l, (if c then q.map (t :: ·) else q) = some l ∧ (∀ t' ∈ l0, t' ∈ l) ∧ (c → t ∈ l) := by
  subst h; split
  · exact ⟨t :: l0, rfl, fun _ h => List.mem_cons_of_mem _ h, fun _ => List.mem_cons_self⟩
  · next hc => exact ⟨l0, rfl, fun _ h => h, fun h => absurd h hc⟩

theorem mem_evq {l : List Nat} {t' : Nat} (h : (if c then q.map (t :: ·) else q) = some l) (ht : t' ∈ l) :
    (c ∧ t' = t) ∨ ∃ l0, q = some l0 ∧ t' ∈ l0 := by
  split at h
  · next hc =>
    cases q with
    | none => cases h
    | some l0 => cases h; exact (List.mem_cons.1 ht).imp (⟨hc, ·⟩) fun h => ⟨l0, rfl, h⟩
  · exact .inr ⟨l, h, ht⟩

end evq

structure At (decl : Spec → (R → Bool) → List R) (rank : R → Nat) (wq wp : Prop) (s : State R Spec) (x : R) :
    Prop where
  cached : ∀ e, s.cache x = some e → s.subs x = e.deps ∧ (s.queue x).isSome = true
  uncached : s.cache x = none → s.subs x = [] ∧ s.mon x = .none ∧ (s.queue x = none ∨ wq)
  watched : ∀ e, s.cache x = some e → e.deps ≠ [] → s.mon x ≠ .none
  fresh : ∀ e, s.cache x = some e → ∀ d ∈ e.deps, e.seen d = s.gen d ∨ Pending s x ∨ wp
  prepLt : ∀ e, s.cache x = some e → s.prepT x < s.clock
  evLt : ∀ q, s.queue x = some q → ∀ t ∈ q, t < s.clock
  ranked : ∀ d ∈ s.subs x, rank d < rank x
  specOk : ∀ e, s.cache x = some e → SpecRanked decl rank x e.spec

omit [DecidableEq R] in
theorem invG_iff_at {r0 : R} {qok : Bool} {pend : List Nat} {s : State R Spec} :
    InvG decl rank r0 qok pend s ↔
      ∀ x, At decl rank (x = r0 ∧ qok = true) (x = r0 ∧ ∃ t ∈ pend, s.prepT x < t) s x :=
  ⟨fun h x => ⟨h.cached x, h.uncached x, h.watched x, h.fresh x, h.prepLt x, h.evLt x, h.ranked x, h.specOk x⟩,
   fun h => ⟨fun x => (h x).cached, fun x => (h x).uncached, fun x => (h x).watched, fun x => (h x).fresh,
     fun x => (h x).prepLt, fun x => (h x).evLt, fun x => (h x).ranked, fun x => (h x).specOk⟩⟩

omit [DecidableEq R] in
/-- `c`: `x` is told, `t`: the time of that event.  `hgen`: each `d` that `x` watches keeps its generation, or
    `x` is told at a time not before the old clock.  `hwq`, `hwp`: the waivers may be exchanged for weaker ones. -/
theorem At.frame {wq wp wq' wp' : Prop} {s s' : State R Spec} {x : R} (h : At decl rank wq wp s x)
    {c : Prop} [Decidable c] {t : Nat}
    (hc : s'.cache x = s.cache x) (hs : s'.subs x = s.subs x) (hm : s'.mon x = s.mon x)
    (hp : s'.prepT x = s.prepT x)
    (hq : s'.queue x = if c then (s.queue x).map (t :: ·) else s.queue x)
    (hclk : s.clock ≤ s'.clock) (ht : c → t < s'.clock)
    (hgen : ∀ d ∈ s.subs x, s'.gen d = s.gen d ∨ (c ∧ s.clock ≤ t))
    (hwq : wq → wq') (hwp : wp → wp') : At decl rank wq' wp' s' x where
  cached e he := by rw [hs, hq, evq_isSome]; exact h.cached e (hc ▸ he)
  uncached he := by
    rw [hs, hm, hq, evq_eq_none]
    exact (h.uncached (hc ▸ he)).imp id (.imp id (.imp id hwq))
  watched e he := hm ▸ h.watched e (hc ▸ he)
  fresh e he d hd := by
    rw [hc] at he
    obtain ⟨hsubs, hqs⟩ := h.cached e he
    obtain ⟨q, hqx⟩ := Option.isSome_iff_exists.1 hqs
    obtain ⟨l, hl, hold, hnew⟩ := evq_some (c := c) (t := t) hqx
    have hpend : ∀ t' ∈ l, s.prepT x < t' → Pending s' x :=
      fun t' ht' hlt => ⟨l, hq.trans hl, t', ht', hp.symm ▸ hlt⟩
    rcases h.fresh e he d hd with h1 | ⟨q', hq', t', ht', hlt⟩ | h1
    · rcases hgen d (hsubs ▸ hd) with hg | ⟨hcc, hle⟩
      · exact .inl (h1.trans hg.symm)
      · -- the dependency that just changed: `x` watches it and gets the event
        exact .inr (.inl (hpend t (hnew hcc) (Nat.lt_of_lt_of_le (h.prepLt e he) hle)))
    · rw [hqx] at hq'; cases hq'
      exact .inr (.inl (hpend t' (hold t' ht') hlt))
    · exact .inr (.inr (hwp h1))
  prepLt e he := hp ▸ Nat.lt_of_lt_of_le (h.prepLt e (hc ▸ he)) hclk
  evLt q hq' t' ht' := by
    rcases mem_evq (hq ▸ hq') ht' with ⟨hcc, rfl⟩ | ⟨l0, hl0, ht0⟩
    · exact ht hcc
    · exact Nat.lt_of_lt_of_le (h.evLt l0 hl0 t' ht0) hclk
  ranked d hd := h.ranked d (hs ▸ hd)
  specOk e he := h.specOk e (hc ▸ he)

omit [DecidableEq R] in
theorem invG_tick {r0 : R} {qok : Bool} {pend : List Nat} {s : State R Spec}
    (h : InvG decl rank r0 qok pend s) : InvG decl rank r0 qok pend (tick s) :=
  invG_iff_at.2 fun x => (invG_iff_at.1 h x).frame (c := False) (t := 0) rfl rfl rfl rfl rfl (Nat.le_succ _)
    (·.elim) (fun _ _ => .inl rfl) id id

theorem invG_notify {r0 : R} {qok : Bool} {pend : List Nat} {s : State R Spec}
    (h : InvG decl rank r0 qok pend s) (d : R) (t : Nat) (ht : t < s.clock) :
    InvG decl rank r0 qok pend (notify s d t) :=
  invG_iff_at.2 fun x => (invG_iff_at.1 h x).frame (c := d ∈ s.subs x) rfl rfl rfl rfl rfl (Nat.le_refl _)
    (fun _ => ht) (fun _ _ => .inl rfl) id id

theorem register_some {s : State R Spec} {r : R} {q : List Nat} (hq : s.queue r = some q) :
    register s r = s := by simp [register, hq]

theorem register_none {s : State R Spec} {r : R} (hq : s.queue r = none) :
    register s r = notify (tick { s with queue := upd s.queue r (some []) }) r s.clock := by
  simp [register, hq]

theorem register_frame (s : State R Spec) (r : R) :
    register s r = { s with queue := (register s r).queue, clock := (register s r).clock } := by
  fun_cases register s r <;> rfl

@[simp] theorem register_cache (s : State R Spec) (r : R) : (register s r).cache = s.cache := by
  rw [register_frame]
@[simp] theorem register_gen (s : State R Spec) (r : R) : (register s r).gen = s.gen := by
  rw [register_frame]
@[simp] theorem register_subs (s : State R Spec) (r : R) : (register s r).subs = s.subs := by
  rw [register_frame]
@[simp] theorem register_mon (s : State R Spec) (r : R) : (register s r).mon = s.mon := by
  rw [register_frame]
@[simp] theorem register_prepT (s : State R Spec) (r : R) : (register s r).prepT = s.prepT := by
  rw [register_frame]

/-- `hp`: what is taken out of the queue is held in `pend`.  `hq`: an uncached `r` with a queue needs that waiver. -/
theorem invG_emptyQueue {r : R} {qok qok' : Bool} {pend : List Nat} {s : State R Spec}
    (h : InvG decl rank r qok pend s) (hq : s.cache r = none → qok' = true)
    (hp : ∀ q, s.queue r = some q → ∀ t ∈ q, t ∈ pend) :
    InvG decl rank r qok' pend { s with queue := upd s.queue r (some []) } := by
  refine invG_iff_at.2 fun x => ?_
  have hx := invG_iff_at.1 h x
  by_cases hxr : x = r
  · subst hxr
    exact { hx with
      cached := fun e he => ⟨(hx.cached e he).1, by simp⟩
      uncached := fun he => ⟨(hx.uncached he).1, (hx.uncached he).2.1, .inr ⟨rfl, hq he⟩⟩
      fresh := fun e he d hd => by
        rcases hx.fresh e he d hd with h1 | ⟨q, hqx, t, ht, hlt⟩ | h1
        · exact .inl h1
        · exact .inr (.inr ⟨rfl, t, hp q hqx t ht, hlt⟩)
        · exact .inr (.inr h1)
      evLt := fun l hl t ht => by simp only [upd_same, Option.some.injEq] at hl; subst hl; cases ht }
  · exact hx.frame (c := False) (t := 0) rfl rfl rfl rfl (by simp [upd_other _ _ _ hxr]) (Nat.le_refl _)
      (·.elim) (fun _ _ => .inl rfl) (fun hw => absurd hw.1 hxr) id

theorem invG_register {r : R} {qok : Bool} {pend : List Nat} {s : State R Spec}
    (h : InvG decl rank r qok pend s) :
    InvG decl rank r true pend (register s r) ∧ ((register s r).queue r).isSome = true ∧
    s.clock ≤ (register s r).clock := by
  fun_cases register s r
  next q hq =>  -- registered already
    exact ⟨h.weaken (fun _ => rfl) fun t ht hlt => ⟨t, ht, hlt⟩, by simp [hq], Nat.le_refl _⟩
  next hq =>  -- a fresh queue; `r`'s watchers are told
    have hbase := invG_emptyQueue h (fun _ => rfl) (fun q hq' => by rw [hq] at hq'; cases hq')
    refine ⟨invG_notify (invG_tick hbase) r s.clock (Nat.lt_succ_self _), ?_, Nat.le_succ _⟩
    exact evq_isSome.trans (by simp [tick])

/-- `r` gets the entry `ce`, the subscriptions `deps`, the queue `q`, the monitor `m`, the prepare time `p` and its
    next generation; whoever watches `r` is told, at the old clock. -/
def changeState (s : State R Spec) (r : R) (ce : Option (Entry R Spec)) (deps : List R)
    (q : Option (List Nat)) (m : Mon) (p : Nat) : State R Spec :=
  { cache := upd s.cache r ce, gen := upd s.gen r (s.gen r + 1), subs := upd s.subs r deps,
    queue := fun x => if r ∈ upd s.subs r deps x then (upd s.queue r q x).map (s.clock :: ·) else upd s.queue r q x,
    mon := upd s.mon r m, prepT := upd s.prepT r p, clock := s.clock + 1 }

/-- Any `qok`, `pend` will do: both waivers concern `r` only, and every clause about `r` is proved afresh
    from `hce`. -/
theorem inv_changeState {r : R} {qok : Bool} {pend : List Nat} {s : State R Spec}
    (h : InvG decl rank r qok pend s)
    {ce : Option (Entry R Spec)} {deps : List R} {q : Option (List Nat)} {m : Mon} {p : Nat}
    (hrank : ∀ d ∈ deps, rank d < rank r)
    (hev : ∀ l, q = some l → ∀ t ∈ l, t < s.clock)
    (hce : match ce with
      | some e => e.deps = deps ∧ (∀ d ∈ deps, e.seen d = s.gen d) ∧ q.isSome = true ∧
          (deps ≠ [] → m ≠ .none) ∧ p < s.clock ∧ SpecRanked decl rank r e.spec
      | none => deps = [] ∧ m = .none ∧ q = none) :
    Inv decl rank (changeState s r ce deps q m p) := by
  have hnotself : r ∉ deps := fun hmem => Nat.lt_irrefl _ (hrank r hmem)
  refine (inv_iff_invG r).2 (invG_iff_at.2 fun x => ?_)
  by_cases hxr : x = r
  · subst hxr
    have hqx : (changeState s x ce deps q m p).queue x = q := by simp [changeState, hnotself]
    have hcx : ∀ {c}, (changeState s x ce deps q m p).cache x = c → ce = c := (upd_same ..).symm.trans
    have hsx : (changeState s x ce deps q m p).subs x = deps := upd_same ..
    have hmx : (changeState s x ce deps q m p).mon x = m := upd_same ..
    have hpx : (changeState s x ce deps q m p).prepT x = p := upd_same ..
    refine ⟨fun e he => ?_, fun he => ?_, fun e he hne => ?_, fun e he d hd => ?_, fun e he => ?_,
      fun l hl t ht => Nat.lt_succ_of_lt (hev l (hqx ▸ hl) t ht), fun d hd => hrank d (hsx ▸ hd),
      fun e he => ?_⟩ <;> cases hcx he  -- `ce` becomes the constructor the clause speaks of: the `match` in `hce` reduces
    · obtain ⟨hdeps, -, hqr, -⟩ := hce
      rw [hsx, hqx]; exact ⟨hdeps.symm, hqr⟩
    · obtain ⟨hd, hmn, hqn⟩ := hce
      rw [hsx, hqx, hmx]; exact ⟨hd, hmn, .inl hqn⟩
    · obtain ⟨hdeps, -, -, hmon, -⟩ := hce
      rw [hmx]; exact hmon (hdeps ▸ hne)
    · obtain ⟨hdeps, hseen, -⟩ := hce
      have hd' : d ∈ deps := hdeps ▸ hd
      have hdx : d ≠ x := fun e => hnotself (e ▸ hd')
      exact .inl ((hseen d hd').trans (upd_other _ _ _ hdx).symm)
    · obtain ⟨-, -, -, -, hpT, -⟩ := hce
      rw [hpx]; exact Nat.lt_succ_of_lt hpT
    · obtain ⟨-, -, -, -, -, hspec⟩ := hce
      exact hspec
  · have hqo : (changeState s r ce deps q m p).queue x =
        if r ∈ s.subs x then (s.queue x).map (s.clock :: ·) else s.queue x := by
      simp [changeState, upd_other _ _ _ hxr]
    refine (invG_iff_at.1 h x).frame (upd_other _ _ _ hxr) (upd_other _ _ _ hxr) (upd_other _ _ _ hxr)
      (upd_other _ _ _ hxr) hqo (Nat.le_succ _) (fun _ => Nat.lt_succ_self _) (fun d hd => ?_)
      (fun hw => absurd hw.1 hxr) (fun hw => absurd hw.1 hxr)
    by_cases hdr : d = r
    · exact .inr ⟨hdr ▸ hd, Nat.le_refl _⟩  -- `x` watches `r`: stale, and told in the same step
    · exact .inl (upd_other _ _ _ hdr)

theorem handle_eq (s : State R Spec) (r : R) (v : Nat) (spec : Spec) (deps : List R) (t0 : Nat) (m : Bool) :
    handleNotifications
        (tick { s with cache := upd s.cache r (some { version := v, spec := spec, deps := deps, seen := s.gen }),
                       gen := upd s.gen r (s.gen r + 1) }) r deps t0 s.clock m =
      changeState s r (some { version := v, spec := spec, deps := deps, seen := s.gen }) deps (s.queue r)
        (if m = true ∧ deps ≠ [] ∧ s.mon r = .none then .starting else s.mon r) t0 := by
  rw [changeState, upd_eq_self]
  show (if m = true ∧ deps ≠ [] ∧ s.mon r = .none then _ else _) = _
  split
  · rfl
  · rw [upd_eq_self]; rfl

theorem offerNew_eq (decl : Spec → (R → Bool) → List R) (s : State R Spec) (r : R) (v : Nat) (spec : Spec) :
    offerNew decl s r v spec =
      changeState (register (tick s) r) r
        (some { version := v, spec := spec, deps := decl spec (cachedB s), seen := s.gen })
        (decl spec (cachedB s)) ((register (tick s) r).queue r)
        (if decl spec (cachedB s) ≠ [] ∧ s.mon r = .none then .starting else s.mon r) s.clock := by
  have hcb : cachedB (register (tick s) r) = cachedB s := by unfold cachedB; rw [register_cache]; rfl
  show handleNotifications _ r _ s.clock (register (tick s) r).clock true = _
  rw [hcb, handle_eq]
  simp [tick]

theorem reprepare_eq {decl : Spec → (R → Bool) → List R} {s : State R Spec} {r : R} {e : Entry R Spec}
    (hc : s.cache r = some e) :
    reprepare decl s r =
      changeState (tick s) r
        (some { version := e.version, spec := e.spec, deps := decl e.spec (cachedB s), seen := s.gen })
        (decl e.spec (cachedB s)) (s.queue r) (s.mon r) s.clock := by
  simp only [reprepare, hc]
  refine (handle_eq (tick s) r e.version e.spec _ s.clock false).trans ?_
  rw [if_neg (by simp)]; rfl

theorem reprepare_none {decl : Spec → (R → Bool) → List R} {s : State R Spec} {r : R}
    (hc : s.cache r = none) : reprepare decl s r = s := by
  simp [reprepare, hc]

theorem delete_cases (s : State R Spec) (r : R) (ver : Option Nat) :
    ((∀ e, s.cache r = some e → staleVersion ver e.version = true) ∧ delete s r ver = s) ∨
    ∃ e, s.cache r = some e ∧ staleVersion ver e.version = false ∧
      delete s r ver = changeState s r none [] none .none (s.prepT r) := by
  -- exits of `delete`: not cached; a stale version is named; the entry goes
  fun_cases delete s r ver
  next hc => exact .inl ⟨fun e he => (by cases hc.symm.trans he), rfl⟩
  next e hc hv => exact .inl ⟨fun e' he' => (by cases hc.symm.trans he'; exact hv), rfl⟩
  next e hc hv _ => exact .inr ⟨e, hc, Bool.eq_false_iff.2 hv, by rw [changeState, upd_eq_self]; rfl⟩

theorem delete_eq {s : State R Spec} {r : R} {e : Entry R Spec} {ver : Option Nat} (hc : s.cache r = some e)
    (hv : staleVersion ver e.version = false) :
    delete s r ver = changeState s r none [] none .none (s.prepT r) :=
  (delete_cases s r ver).elim (fun ⟨h, _⟩ => absurd (h e hc) (by rw [hv]; exact Bool.noConfusion))
    fun ⟨_, _, _, h⟩ => h

theorem delete_keep {s : State R Spec} {r : R} {ver : Option Nat}
    (h : ∀ e, s.cache r = some e → staleVersion ver e.version = true) : delete s r ver = s :=
  (delete_cases s r ver).elim (·.2) fun ⟨e, hc, hv, _⟩ => absurd (h e hc) (by rw [hv]; exact Bool.noConfusion)

theorem offer_cases (decl : Spec → (R → Bool) → List R) (s : State R Spec) (r : R) (v : Nat) (spec : Spec) :
    (∃ e, s.cache r = some e ∧ e.version = v ∧ offer decl s r v spec = s) ∨
    ((∀ e, s.cache r = some e → e.version ≠ v) ∧ offer decl s r v spec = offerNew decl s r v spec) := by
  -- exits of `offer`: the cached version again; another version; not cached
  fun_cases offer decl s r v spec
  next e hc hv => exact .inl ⟨e, hc, hv, rfl⟩
  next e hc hv => exact .inr ⟨fun e' he' => (by cases hc.symm.trans he'; exact hv), rfl⟩
  next hc => exact .inr ⟨fun e he => (by cases hc.symm.trans he), rfl⟩

theorem offer_hit {decl : Spec → (R → Bool) → List R} {s : State R Spec} {r : R} {e : Entry R Spec} (spec : Spec)
    (hc : s.cache r = some e) : offer decl s r e.version spec = s :=
  (offer_cases decl s r e.version spec).elim (fun ⟨_, _, _, h⟩ => h) fun ⟨h, _⟩ => absurd rfl (h e hc)

theorem offer_miss {decl : Spec → (R → Bool) → List R} {s : State R Spec} {r : R} {v : Nat} (spec : Spec)
    (h : ∀ e, s.cache r = some e → e.version ≠ v) : offer decl s r v spec = offerNew decl s r v spec :=
  (offer_cases decl s r v spec).elim (fun ⟨e, hc, hv, _⟩ => absurd hv (h e hc)) (·.2)

theorem inv_offerNew {s : State R Spec}
    (h : Inv decl rank s) (r : R) (v : Nat) (spec : Spec) (hrank : SpecRanked decl rank r spec) :
    Inv decl rank (offerNew decl s r v spec) := by
  obtain ⟨hG, hq, hclk⟩ := invG_register (invG_tick (h.toG r false []))
  rw [offerNew_eq]
  refine inv_changeState hG (hrank _) (hG.evLt r)
    ⟨rfl, fun _ _ => by simp [tick], hq, fun hne => ?_, Nat.lt_of_lt_of_le (Nat.lt_succ_self _) hclk, hrank⟩
  split  -- no monitor yet: one is started
  · exact Mon.noConfusion
  · next hc => exact fun hm => hc ⟨hne, hm⟩

theorem inv_offer {s : State R Spec}
    (h : Inv decl rank s) (r : R) (v : Nat) (spec : Spec) (hrank : SpecRanked decl rank r spec) :
    Inv decl rank (offer decl s r v spec) := by
  rcases offer_cases decl s r v spec with ⟨_, _, _, e⟩ | ⟨_, e⟩ <;> rw [e]
  · exact h
  · exact inv_offerNew h r v spec hrank

theorem inv_reprepare {r : R} {pend : List Nat} {s : State R Spec} (h : InvG decl rank r false pend s)
    (hmon : s.mon r ≠ .none) : Inv decl rank (reprepare decl s r) := by
  cases hc : s.cache r with
  | none => exact absurd (h.uncached r hc).2.1 hmon  -- a resource with a monitor is cached
  | some e =>
    rw [reprepare_eq hc]
    have hspec := h.specOk r e hc
    exact inv_changeState (invG_tick h) (hspec _) (fun q hq t ht => Nat.lt_succ_of_lt (h.evLt r q hq t ht))
      ⟨rfl, fun _ _ => rfl, (h.cached r e hc).2, fun _ => hmon, Nat.lt_succ_self _, hspec⟩

theorem reprepare_mon (decl : Spec → (R → Bool) → List R) (s : State R Spec) (r : R) :
    (reprepare decl s r).mon = s.mon := by
  cases hc : s.cache r with
  | none => rw [reprepare_none hc]
  | some e => rw [reprepare_eq hc]; exact upd_eq_self ..

theorem drain_induction (decl : Spec → (R → Bool) → List R) (r : R) {P : State R Spec → Prop}
    (hP : ∀ s, P s → P (reprepare decl s r)) (q : List Nat) (s : State R Spec) (h : P s) :
    P (drain decl s r q) := by
  fun_induction drain decl s r q with
  | case1 => exact h
  | case2 s t rest _ ih => exact ih h  -- `t` is not newer than the prepare start: dropped
  | case3 s t rest _ ih => exact ih (hP s h)

theorem inv_drain {r : R} {P : State R Spec → Prop}
    (hP : ∀ s pend, InvG decl rank r false pend s → P s → P (reprepare decl s r)) (q : List Nat)
    {s : State R Spec} (h : InvG decl rank r false q s) (hmon : s.mon r ≠ .none) (h0 : P s) :
    Inv decl rank (drain decl s r q) ∧ P (drain decl s r q) := by
  -- an induction of its own, not an instance of `drain_induction`: the waiver `pend` shrinks with the loop
  fun_induction drain decl s r q with
  | case1 => exact ⟨(inv_iff_invG r).2 h, h0⟩
  | case2 s t rest ht ih => exact ih (h.drop_pend ht) hmon h0  -- `t` is dropped
  | case3 s t rest _ ih =>
    exact ih ((inv_reprepare h hmon).toG r false rest) (by rw [reprepare_mon]; exact hmon) (hP s _ h h0)

theorem bg_none {s : State R Spec} {r : R} (hm : s.mon r = .none) : bg decl s r = s := by
  simp only [bg, hm]

theorem bg_eq {s : State R Spec} (h : Inv decl rank s) {r : R} (hm : s.mon r ≠ .none) :
    ∃ q, s.queue r = some q ∧ bg decl s r =
      drain decl { s with queue := upd s.queue r (some []), mon := upd s.mon r .waiting } r q := by
  obtain ⟨-, q, -, hq⟩ := h.registered_of_mon hm
  refine ⟨q, hq, ?_⟩
  fun_cases bg decl s r
  next hmr => exact absurd hmr hm
  next hmr => simp only [register_some hq, runDrain, hq]  -- starting: `r` is registered, `register` does nothing
  next hmr =>  -- waiting already
    rw [show upd s.mon r .waiting = s.mon from hmr ▸ upd_eq_self s.mon r]
    simp only [runDrain, hq]

theorem invG_bgStart {s : State R Spec} (h : Inv decl rank s) {r : R} {q : List Nat} (hq : s.queue r = some q)
    (hm : s.mon r ≠ .none) :
    InvG decl rank r false q { s with queue := upd s.queue r (some []), mon := upd s.mon r .waiting } := by
  obtain ⟨e, -, hc, -⟩ := h.registered_of_mon hm
  -- the monitor is now waiting: only the clauses about monitors are concerned
  have hw : Inv decl rank { s with mon := upd s.mon r .waiting } :=
    { h with
      uncached := fun x hx => by
        obtain ⟨a, b, c⟩ := h.uncached x hx
        have hxr : x ≠ r := by intro e'; subst e'; rw [hc] at hx; cases hx
        exact ⟨a, by simp only [upd_other _ _ _ hxr]; exact b, c⟩
      watched := fun x e hx hne => by
        by_cases hxr : x = r
        · subst hxr; simp
        · simp only [upd_other _ _ _ hxr]; exact h.watched x e hx hne }
  exact invG_emptyQueue (hw.toG r false q) (fun hn => by rw [show s.cache r = some e from hc] at hn; cases hn)
    (fun q' hq' => by rw [hq] at hq'; cases hq'; exact fun _ h => h)

theorem bg_induction {s : State R Spec} (h : Inv decl rank s) (r : R) {P : State R Spec → Prop}
    (hnone : s.mon r = .none → P s)
    (hstart : ∀ q, s.queue r = some q →
      P { s with queue := upd s.queue r (some []), mon := upd s.mon r .waiting })
    (hP : ∀ s' pend, InvG decl rank r false pend s' → P s' → P (reprepare decl s' r)) :
    Inv decl rank (bg decl s r) ∧ P (bg decl s r) := by
  by_cases hm : s.mon r = .none
  · rw [bg_none hm]; exact ⟨h, hnone hm⟩
  · obtain ⟨q, hq, e⟩ := bg_eq h hm
    rw [e]
    exact inv_drain hP q (invG_bgStart h hq hm) (by simp) (hstart q hq)

theorem inv_bg {s : State R Spec} (h : Inv decl rank s) (r : R) : Inv decl rank (bg decl s r) :=
  (bg_induction h r (P := fun _ => True) (fun _ => trivial) (fun _ _ => trivial) fun _ _ _ _ => trivial).1

theorem inv_delete {s : State R Spec} (h : Inv decl rank s) (r : R) (ver : Option Nat) :
    Inv decl rank (delete s r ver) := by
  rcases delete_cases s r ver with ⟨_, e⟩ | ⟨_, _, _, e⟩ <;> rw [e]
  · exact h
  · exact inv_changeState (h.toG r false []) (by simp) (by simp) ⟨rfl, rfl, rfl⟩

theorem inv_step {s : State R Spec} (h : Inv decl rank s)
    (a : Action R Spec) (ha : Ranked decl rank a) : Inv decl rank (step decl s a) := by
  cases a with
  | offer r v spec => exact inv_offer h r v spec ha
  | delete r ver => exact inv_delete h r ver
  | bg r => exact inv_bg h r

theorem inv_run (acts : List (Action R Spec)) {s : State R Spec}
    (h : Inv decl rank s) (ha : ∀ a ∈ acts, Ranked decl rank a) : Inv decl rank (run decl s acts) := by
  induction acts generalizing s with
  | nil => exact h
  | cons a rest ih =>
    unfold run; simp only [List.foldl_cons]
    exact ih (inv_step h a (ha a (by simp))) (fun b hb => ha b (by simp [hb]))

end

end Koreo.HotReload
