/-
  C14 / C20 at the Workflow / ResourceFunction / FunctionTest level: what each function of the preparation model
  (`Koreo/WorkflowPrep.lean`) answers, stated once per function, so that the property proofs do not unfold it
  again.  Most are inversions of `f … = .ok _` read off the cases of the definition; the steps loop is inverted one
  turn at a time, the stages of a step and the `refSwitch` loop have what they gather in closed form.
-/
import Koreo.WorkflowPrep
import Koreo.Lemmas.CelAst

namespace Koreo.WorkflowPrep
open Koreo.CelAst

theorem scanFld_needed {f : Fld} {acc acc' : Acc} (h : scanFld f acc = .ok (some acc')) :
    ∃ ks, acc'.needed = acc.needed ++ stepDeps ks ∧ ∀ t, f = .ast t → extract t = .ok ks := by
  revert h
  fun_cases scanFld f acc <;> intro h <;> cases h
  · exact ⟨[], (List.append_nil _).symm, nofun⟩
  · exact ⟨_, rfl, fun t ht => by cases ht; assumption⟩

theorem scanForEach_needed {o : Option ForEachSpec} {acc acc' : Acc} (h : scanForEach o acc = .ok (some acc')) :
    ∃ ks, acc'.needed = acc.needed ++ stepDeps ks ∧
      ∀ fe t, o = some fe → fe.itemIn = .ast t → extract t = .ok ks := by
  revert h
  fun_cases scanForEach o acc <;> intro h <;> cases h
  -- no `forEach` | `itemIn` parsed, was analysed, and neither extra failure applies
  · exact ⟨[], (List.append_nil _).symm, nofun⟩
  next fe t hin ks hx _ => exact ⟨ks, rfl, fun _ t' hfe ht => by cases hfe; cases hin.symm.trans ht; exact hx⟩

theorem runStages_cons {st : Stage} {rest : List Stage} {acc acc' : Acc}
    (h : runStages (st :: rest) acc = .ok (.inr acc')) :
    ∃ a, st acc = .ok (some a) ∧ runStages rest a = .ok (.inr acc') := by
  simp only [runStages] at h
  split at h
  · cases h
  · cases h
  · exact ⟨_, ‹_›, h⟩

theorem runStages_needed {s : StepSpec} {acc0 acc : Acc} (h : runStages (stages s) acc0 = .ok (.inr acc)) :
    ∃ k1 k2 k3 k4, acc.needed = acc0.needed ++ stepDeps k1 ++ stepDeps k2 ++ stepDeps k3 ++ stepDeps k4 ∧
      (∀ t, s.skipIf = .ast t → extract t = .ok k1) ∧
      (∀ fe t, s.forEach = some fe → fe.itemIn = .ast t → extract t = .ok k2) ∧
      (∀ t, s.inputs = .ast t → extract t = .ok k3) ∧ (∀ t, s.state = .ast t → extract t = .ok k4) := by
  obtain ⟨a1, h1, h⟩ := runStages_cons h
  obtain ⟨a2, h2, h⟩ := runStages_cons h
  obtain ⟨a3, h3, h⟩ := runStages_cons h
  obtain ⟨a4, h4, h⟩ := runStages_cons h
  cases h
  obtain ⟨k1, e1, x1⟩ := scanFld_needed h1
  obtain ⟨k2, e2, x2⟩ := scanForEach_needed h2
  obtain ⟨k3, e3, x3⟩ := scanFld_needed h3
  obtain ⟨k4, e4, x4⟩ := scanFld_needed h4
  exact ⟨k1, k2, k3, k4, by rw [e4, e3, e2, e1], x1, x2, x3, x4⟩

theorem loadStep_resources {env : Env} {s : StepSpec} {known : List String} {out : StepOut}
    (h : loadStep env s known = .ok out) (hone : s.ref = none ∨ s.refSwitch = none) :
    ∃ logic acc0, loadStepLogic env s = .ok (out.resources, logic, acc0) := by
  revert h
  fun_cases loadStep env s known <;> intro h <;> cases h
  -- both `ref` and `refSwitch` | every other exit hands on the resources of the Logic part
  case case1 hboth => rcases hone with h | h <;> simp [h] at hboth
  all_goals exact ⟨_, _, ‹loadStepLogic env s = _›⟩

theorem loadStep_step {env : Env} {s : StepSpec} {known : List String} {out : StepOut} {deps : List String}
    (h : loadStep env s known = .ok out) (hr : out.result = .step deps) :
    (∀ n ∈ deps, n ∈ known) ∧ ∃ l acc0 acc, loadStepLogic env s = .ok (out.resources, some l, acc0) ∧
      l.isOk = true ∧ runStages (stages s) acc0 = .ok (.inr acc) ∧ deps = acc.needed := by
  revert h
  fun_cases loadStep env s known <;> intro h <;> cases h <;> cases hr
  -- the one exit that builds a `Step`
  next res acc0 _ l hne acc hrun hall hl =>
    have hok : l.isOk = true := by cases l with | err c => exact (hne c rfl).elim | _ => rfl
    exact ⟨fun n hn => by simpa using List.all_eq_true.1 hall n hn, l, acc0, acc, hl, hok, hrun, rfl⟩

theorem loadStepLogic_ref {env : Env} {s : StepSpec} {r : Ref} (h : s.ref = some r) :
    loadStepLogic env s = .ok ((loadLogic env r).1, some (loadLogic env r).2, ⟨[], []⟩) := by
  unfold loadStepLogic
  rw [h]
  rfl

theorem loadStepLogic_switch {env : Env} {s : StepSpec} {sw : SwitchSpec} {res : Option (List Res)}
    {logic : Option Logic} {acc0 : Acc} (hn : s.ref = none) (hsw : s.refSwitch = some sw)
    (h : loadStepLogic env s = .ok (res, logic, acc0)) :
    ∃ l, loadLogicSwitch env sw = .ok (res, l) ∧ logic = some l ∧
      (l.isOk = true → ∀ t, sw.switchOn = .ast t → ∃ ks, extract t = .ok ks ∧ acc0 = (⟨[], []⟩ : Acc).add ks) := by
  revert h
  -- exits 2 and 3 raise; 1 has a `ref`, 7 has no `refSwitch`; 4: the switch loaded and `switchOn` was analysed,
  -- 5: loaded, `switchOn` is no expression, 6: did not load
  fun_cases loadStepLogic env s <;> intro h <;> cases h
  case case1 r hr _ _ => cases hn.symm.trans hr
  case case4 sw' hsw' _ l _ t hon ks hx hls =>
    cases hsw.symm.trans hsw'
    exact ⟨l, hls, rfl, fun _ t' ht => by cases hon.symm.trans ht; exact ⟨ks, hx, rfl⟩⟩
  case case5 sw' hsw' _ l _ hna hls =>
    cases hsw.symm.trans hsw'
    exact ⟨l, hls, rfl, fun _ t ht => (hna t ht).elim⟩
  case case6 sw' hsw' _ l hnok hls =>
    cases hsw.symm.trans hsw'
    exact ⟨l, hls, rfl, fun hok => absurd hok hnok⟩
  case case7 hnone _ => cases hsw.symm.trans hnone

theorem loadStepsLoop_cons {env : Env} {s : StepSpec} {rest : List StepSpec} {known : List String}
    {rs : List StepR} {res : List Res} {pp : List String}
    (h : loadStepsLoop env (s :: rest) known = .ok (rs, res, pp)) :
    (s.lbl ∈ known ∧ ∃ rs', loadStepsLoop env rest known = .ok (rs', res, pp) ∧ rs = .error .permFail :: rs') ∨
    (s.lbl ∉ known ∧ ∃ out rs' res' pp', loadStep env s known = .ok out ∧
        loadStepsLoop env rest (s.lbl :: known) = .ok (rs', res', pp') ∧
        rs = out.result :: rs' ∧ res = out.resources.getD [] ++ res' ∧ pp = out.parentProps ++ pp') := by
  generalize hl : s :: rest = l at h
  revert h
  fun_cases loadStepsLoop env l known <;> intro h <;> cases h <;> cases hl
  -- a repeated label | a new one, `_load_step` and the rest of the loop answered
  · exact .inl ⟨List.contains_iff_mem.1 ‹_›, _, ‹_›, rfl⟩
  · exact .inr ⟨fun hm => ‹¬_› (List.contains_iff_mem.2 hm), _, _, _, _, ‹loadStep env s known = _›, ‹_›, rfl, rfl, rfl⟩

theorem loadStepsLoop_length {env : Env} : ∀ {steps : List StepSpec} {known : List String} {rs : List StepR}
    {res : List Res} {pp : List String},
    loadStepsLoop env steps known = .ok (rs, res, pp) → rs.length = steps.length
  | [], _, rs, _, _, h => by cases h; rfl
  | s :: rest, known, rs, res, pp, h => by
    rcases loadStepsLoop_cons h with ⟨_, rs', hl, rfl⟩ | ⟨_, _, rs', _, _, _, hl, rfl, _, _⟩ <;>
      simp [loadStepsLoop_length hl]

/-- `known'` is `known_steps` as the loop reaches `rest`; only its members matter. -/
theorem loadStepsLoop_append {env : Env} (pre : List StepSpec) {rest : List StepSpec}
    {known : List String} {rs : List StepR} {res : List Res} {pp : List String}
    (h : loadStepsLoop env (pre ++ rest) known = .ok (rs, res, pp)) :
    ∃ known' res' pp', loadStepsLoop env rest known' = .ok (rs.drop pre.length, res', pp') ∧
      (∀ x, x ∈ known' ↔ x ∈ known ∨ x ∈ pre.map StepSpec.lbl) ∧ ∀ x ∈ res', x ∈ res := by
  induction pre generalizing known rs res pp with
  | nil => exact ⟨known, res, pp, h, fun x => (or_iff_left List.not_mem_nil).symm, fun _ h => h⟩
  | cons p pre ih =>
    rcases loadStepsLoop_cons h with ⟨hp, rs0, hl, rfl⟩ | ⟨_, out, rs0, res0, _, _, hl, rfl, rfl, _⟩ <;>
      obtain ⟨k, res', pp', hl', hk, hres⟩ := ih hl
    · -- a repeated label: `known` stays, and holds it already
      refine ⟨k, res', pp', hl', fun x => ?_, hres⟩
      rw [hk, List.map_cons, List.mem_cons]
      exact ⟨Or.imp_right .inr, fun h => h.elim .inl fun h => h.elim (fun e => .inl (e ▸ hp)) .inr⟩
    · refine ⟨k, res', pp', hl', fun x => ?_, fun x hx => List.mem_append_right _ (hres x hx)⟩
      rw [hk, List.map_cons, List.mem_cons, List.mem_cons, or_assoc, or_left_comm]

theorem prepareWorkflow_ok {env : Env} {spec : List StepSpec} {r : WfOut}
    (h : prepareWorkflow env spec = .ok r) (hne : spec ≠ []) :
    ∃ res pp, loadStepsLoop env spec [] = .ok (r.steps, res, pp) ∧ r.ready = readyOf r.steps ∧ r.watched = res := by
  revert h
  fun_cases prepareWorkflow env spec <;> intro h <;> cases h
  · exact absurd (List.isEmpty_iff.1 ‹_›) hne
  · exact ⟨_, _, ‹_›, rfl, rfl⟩

theorem prepareWorkflow_at {env : Env} {pre post : List StepSpec} {s : StepSpec} {r : WfOut}
    (h : prepareWorkflow env (pre ++ s :: post) = .ok r) :
    r.ready = readyOf r.steps ∧
    ∃ x known, r.steps[pre.length]? = some x ∧ (∀ n, n ∈ known ↔ n ∈ pre.map StepSpec.lbl) ∧
      ((s.lbl ∈ known ∧ x = .error .permFail) ∨
       (s.lbl ∉ known ∧ ∃ out, loadStep env s known = .ok out ∧ x = out.result ∧
          ∀ y ∈ out.resources.getD [], y ∈ r.watched)) := by
  obtain ⟨res, pp, hl, hready, rfl⟩ := prepareWorkflow_ok h (by simp)
  obtain ⟨known, res', pp', hl', hk, hres⟩ := loadStepsLoop_append pre hl
  have hx : r.steps[pre.length]? = (r.steps.drop pre.length)[0]? := by rw [List.getElem?_drop]; rfl
  refine ⟨hready, ?_⟩
  rcases loadStepsLoop_cons hl' with ⟨hc, _, _, hd⟩ | ⟨hc, out, _, _, _, hs, _, hd, rfl, _⟩ <;> rw [hd] at hx <;>
    refine ⟨_, known, hx, fun n => (hk n).trans (or_iff_right List.not_mem_nil), ?_⟩
  · exact .inl ⟨hc, rfl⟩
  · exact .inr ⟨hc, out, hs, rfl, fun y hy => hres y (List.mem_append_left _ hy)⟩

theorem readyOf_error {rs : List StepR} {r : StepR} (hm : r ∈ rs) (he : r.isError = true) :
    readyOf rs ≠ .ok := by
  fun_cases readyOf rs
  · nofun
  · nofun
  -- the exit that answers `.ok`: no step is an error
  next _ hany => exact absurd (List.any_eq_true.2 ⟨r, hm, he⟩) hany

theorem readyOf_ok {rs : List StepR} (h : readyOf rs = .ok) : ∀ r ∈ rs, r.isError = false := by
  intro r hr
  cases he : r.isError with
  | false => rfl
  | true => exact absurd h (readyOf_error hr he)

/-- the three tests `_load_logic` makes before looking anything up -/
def Ref.valid (r : Ref) : Prop := r.kind ≠ "" ∧ r.name ≠ "" ∧ logicKinds.contains r.kind = true

theorem loadLogic_valid {env : Env} {r : Ref} (h : r.valid) :
    (loadLogic env r).1 = some [(r.kind, r.name)] := by
  obtain ⟨h1, h2, h3⟩ := h
  unfold loadLogic
  simp only [h1, h2, h3, if_false, Bool.not_true]
  cases env r <;> rfl

theorem loadLogic_fn {env : Env} {r : Ref} {w : Bool} {ks : List String}
    (h : (loadLogic env r).2 = .fn w ks) : env r = .ready w ks := by
  revert h
  fun_cases loadLogic env r <;> intro h <;> cases h
  assumption

/-- the `dynamic_input_keys` a loaded case adds to the switch's -/
def caseKeys : Logic → List String
  | .fn true ks => ks.map ("inputs." ++ ·)
  | .fn false ks => ks
  | _ => []

theorem mem_caseKeys {l : Logic} {k : String} (h : k ∈ caseKeys l) :
    ∃ w ks, l = .fn w ks ∧ (k ∈ ks ∨ ∃ k' ∈ ks, k = "inputs." ++ k') := by
  cases l with
  | fn w ks =>
    refine ⟨w, ks, rfl, ?_⟩
    cases w
    · exact .inl h
    · exact .inr (List.mem_map.1 h |>.imp fun k' hk' => ⟨hk'.1, hk'.2.symm⟩)
  | _ => cases h

theorem switchLoop_eq {env : Env} {cases : List CaseSpec} {acc acc' : SwitchAcc} :
    switchLoop env cases acc = some acc' →
    acc'.resources = acc.resources ++ cases.flatMap (fun c => (loadLogic env c.ref).1.getD []) ∧
    acc'.keys = acc.keys ++ cases.flatMap (fun c => caseKeys (loadLogic env c.ref).2) := by
  fun_induction switchLoop env cases acc <;> intro h
  · cases h; simp
  · cases h
  -- one turn: the resources and keys of the case loaded (`ll`) are appended, and the loop goes on
  next c _ acc _ ll ih =>
    obtain ⟨h1, h2⟩ := ih h
    refine ⟨by rw [h1, List.flatMap_cons, List.append_assoc], ?_⟩
    rw [h2, List.flatMap_cons, ← List.append_assoc]
    congr 1
    show _ = acc.keys ++ caseKeys ll.2
    cases ll.2 with
    | fn w ks => cases w <;> rfl
    | err e => exact (List.append_nil _).symm
    | switch ks => exact (List.append_nil _).symm

theorem switchLoop_isSome (env : Env) (cases : List CaseSpec) (acc : SwitchAcc) :
    (if acc.default.isSome then 1 else 0) + (cases.filter (·.isDefault)).length ≤ 1 →
    ∃ acc', switchLoop env cases acc = some acc' := by
  fun_induction switchLoop env cases acc <;> intro h
  case case1 => exact ⟨_, rfl⟩
  case case2 c rest acc hc =>
    -- a second default: the count forbids it
    simp only [Bool.and_eq_true] at hc
    simp only [hc.1, hc.2, List.filter_cons, if_true, List.length_cons] at h
    omega
  -- the case is loaded; the count for the rest of the loop
  case case3 c rest acc hc ll ih =>
    apply ih
    cases hd : c.isDefault with
    | false => simpa only [List.filter_cons, hd, Bool.false_eq_true, if_false] using h
    | true =>
      have hnone : acc.default.isSome = false := by simpa [hd] using hc
      simp only [List.filter_cons, hd, hnone, if_true, List.length_cons, Bool.false_eq_true, if_false] at h
      simp only [if_true, Option.isSome_some]
      omega

/-- The resources of the loop are part of the statement so that `loadLogicSwitch_watched` needs no second walk down
    the definition. -/
theorem loadLogicSwitch_cases (env : Env) (sw : SwitchSpec) :
    ((∀ t, sw.switchOn ≠ .ast t) ∧ loadLogicSwitch env sw = .ok (none, .err .permFail)) ∨
    (∃ t e, sw.switchOn = .ast t ∧ extract t = .error e ∧ loadLogicSwitch env sw = .error e) ∨
    (∃ t keys, sw.switchOn = .ast t ∧ extract t = .ok keys ∧ ∃ res l, loadLogicSwitch env sw = .ok (res, l) ∧
      (sw.cases.isEmpty = false → ∀ acc, switchLoop env sw.cases ⟨[], [], none, keys⟩ = some acc →
        res = some acc.resources)) := by
  fun_cases loadLogicSwitch env sw
  -- `switchOn` absent | did not parse | its analysis raised
  case case1 hon => exact .inl ⟨(fun t ht => nomatch hon.symm.trans ht), rfl⟩
  case case2 hon => exact .inl ⟨(fun t ht => nomatch hon.symm.trans ht), rfl⟩
  case case3 t hon e hx => exact .inr (.inl ⟨t, e, hon, hx, rfl⟩)
  -- `switchOn` was analysed: no cases | a second default | the loop ran (three exits, by what it loaded)
  case case4 t hon ks hx hemp => exact .inr (.inr ⟨t, ks, hon, hx, _, _, rfl, fun hne => nomatch hemp.symm.trans hne⟩)
  case case5 t hon ks hx _ hnone =>
    exact .inr (.inr ⟨t, ks, hon, hx, _, _, rfl, fun _ acc h => nomatch hnone.symm.trans h⟩)
  all_goals
    exact .inr (.inr ⟨_, _, ‹_›, ‹_›, _, _, rfl, fun _ acc' => by
      rw [‹switchLoop env sw.cases _ = some _›]; rintro ⟨⟩; rfl⟩)

theorem loadLogicSwitch_watched {env : Env} {sw : SwitchSpec} {res : Option (List Res)} {l : Logic} {t : Cel}
    (h : loadLogicSwitch env sw = .ok (res, l)) (ht : sw.switchOn = .ast t)
    (hdef : (sw.cases.filter (·.isDefault)).length ≤ 1) {c : CaseSpec} (hc : c ∈ sw.cases) (hv : c.ref.valid) :
    (c.ref.kind, c.ref.name) ∈ res.getD [] := by
  rcases loadLogicSwitch_cases env sw with ⟨hna, _⟩ | ⟨_, _, _, _, he⟩ | ⟨_, keys, _, _, res', l', h', hres⟩
  · exact absurd ht (hna t)
  · rw [he] at h; cases h
  · rw [h'] at h; cases h
    obtain ⟨acc, hacc⟩ := switchLoop_isSome env sw.cases ⟨[], [], none, keys⟩ (by simpa using hdef)
    rw [hres (List.isEmpty_eq_false_iff.2 (List.ne_nil_of_mem hc)) acc hacc, Option.getD_some, (switchLoop_eq hacc).1]
    refine List.mem_append_right _ (List.mem_flatMap.2 ⟨c, hc, ?_⟩)
    rw [loadLogic_valid hv]
    exact List.mem_singleton.2 rfl

theorem rfWatched_some {bodyOk : Bool} {overlays : List OverlaySpec} {w : List Res}
    (h : rfWatched bodyOk overlays = some w) : w = overlayWatched overlays := by
  revert h
  fun_cases rfWatched bodyOk overlays <;> intro h <;> cases h
  rfl

theorem overlayInputsCheck_modelJoinStyle (keys provided : List String) :
    overlayInputsCheck modelJoinStyle keys provided =
      .ok (if (missingInputs keys provided).isEmpty then none
           else some ((missingInputs keys provided).map fun m => "\"" ++ pyFormat m ++ "\"")) := by
  fun_cases overlayInputsCheck modelJoinStyle keys provided
  next h => rw [if_pos h]
  next h => rw [if_neg h]; rfl

theorem overlayWatched_mem {os : List OverlaySpec} {o : OverlaySpec} {n : String}
    (hm : o ∈ os) (h1 : o.skipIf ≠ .parseFail) (h2 : o.hasInline = false) (h3 : o.refName = some n) :
    ("ValueFunction", n) ∈ overlayWatched os := by
  fun_induction overlayWatched os
  case case1 => cases hm
  -- the head entry is skipped (its `skipIf` did not parse | it is inline | it names nothing), so `o` is not it
  case case2 hpf ih => exact ih ((List.mem_cons.1 hm).resolve_left fun e => h1 (e ▸ hpf))
  case case3 hin _ ih => exact ih ((List.mem_cons.1 hm).resolve_left fun e => by simp [e ▸ hin] at h2)
  case case5 hnone _ ih => exact ih ((List.mem_cons.1 hm).resolve_left fun e => by simp [e ▸ hnone] at h3)
  -- the head entry is watched
  case case4 n' hn _ ih =>
    rcases List.mem_cons.1 hm with rfl | hm
    · exact (Option.some.inj (h3.symm.trans hn)) ▸ List.mem_cons_self
    · exact List.mem_cons_of_mem _ (ih hm)

theorem functionRefResource_some {r : Ref} {res : Res} (h : functionRefResource r = some res) :
    res = (r.kind, r.name) := by
  revert h
  fun_cases functionRefResource r <;> intro h <;> cases h
  rfl

theorem ftWatched_some {fn : Ref} {ok : Bool} {templates : List String} {w : List Res}
    (h : ftWatched fn ok templates = some w) :
    w = (fn.kind, fn.name) :: templates.map fun n => ("ResourceTemplate", n) := by
  revert h
  fun_cases ftWatched fn ok templates <;> intro h <;> cases h
  next res hf _ => rw [functionRefResource_some hf]

theorem prepareApi_eq (reg : Registry) (av : String) :
    prepareApi reg av =
      if av ≠ "" ∧ slashes av ≤ 1 ∧ lookupOk reg = true then (av :: reg, .prepared) else (reg, .permFail) := by
  -- in source order: no `apiVersion` | more than one slash | a registered class cannot be unpacked | registered
  fun_cases prepareApi reg av
  next h => rw [if_neg fun c => c.1 h]
  next _ h => rw [if_neg fun c => absurd c.2.1 (by omega)]
  next _ _ h => rw [if_neg fun c => by simp [c.2.2] at h]
  next h1 h2 h3 => rw [if_pos ⟨h1, by omega, by simpa using h3⟩]

theorem prepareK_invalid {Spec : Type} {schemaValid : Spec → Bool} {spec : Spec} (h : schemaValid spec = false)
    (body : Spec → List Ev × PrepR) : prepareK schemaValid body spec = ([.validate], .permFail) := by
  unfold prepareK
  rw [if_neg (by simp [h])]

theorem prepareK_valid {Spec : Type} {schemaValid : Spec → Bool} {spec : Spec} (h : schemaValid spec = true)
    (body : Spec → List Ev × PrepR) :
    prepareK schemaValid body spec = (.validate :: (body spec).1, (body spec).2) := by
  unfold prepareK
  rw [if_pos h]

end Koreo.WorkflowPrep
