/-
  The payload pipeline of `Koreo.ResourceFn` (`materialise`, `createPayload`, `patchView`, `patchPayload`,
  `withOwner`) step by step — each `Option` chain inverted once, every step keeps the pinned identity — and
  where the one request of a reconcile comes from, method by method (`request_cases`).  The
  request builders themselves are characterised in Lemmas/Identity.lean.  (The lemma namespace `Koreo.Rf` is
  not the structure `Koreo.ResourceFn.Rf`.)  Core Lean only.
-/
import Koreo.Lemmas.Identity
import Koreo.Lemmas.ResourceFn
namespace Koreo.Rf
open Koreo JVal Koreo.Identity Koreo.Payload Koreo.ResourceFn

theorem createPayload_spec {enc : JVal → String} {f view ref p : JVal} {cov : Option Step} {so : Bool}
    (h : createPayload enc f view cov so ref = some p) :
    ∃ v w, applyCreateOv cov view = some v ∧ withOwner so (deepOverlay v f) ref (deepOverlay v f) = some w ∧
      prepareForApi enc w = some p := by
  obtain ⟨v, hv, h⟩ := Option.bind_eq_some_iff.mp h
  obtain ⟨w, hw, h⟩ := Option.bind_eq_some_iff.mp h
  exact ⟨v, w, hv, hw, h⟩

theorem patchPayload_spec {enc : JVal → String} {expected live ref p : JVal} {so r : Bool}
    (h : patchPayload enc expected live ref so r = some p) :
    ∃ w, patchView expected live ref so r = some w ∧ prepareForApi enc w = some p :=
  Option.bind_eq_some_iff.mp h

theorem withOwner_spec {so : Bool} {src ref v v' : JVal} (h : withOwner so src ref v = some v') :
    (so = false ∧ v' = v) ∨
    (so = true ∧ ∃ refs, updatedOwnerRefs src ref = some refs ∧ setMetaKey "ownerReferences" (.arr refs) v = some v') := by
  unfold withOwner at h
  cases so
  · cases h
    exact .inl ⟨rfl, rfl⟩
  · exact .inr ⟨rfl, Option.bind_eq_some_iff.mp h⟩

theorem materialise_pinned (t : Target) {tmpl : JVal} {steps : List Step} {e : JVal}
    (h : materialise (forced t) tmpl steps = some e) : Pinned t e := by
  unfold materialise at h
  split at h
  · cases h
    exact pinned_deepOverlay_forced _ t
  · obtain ⟨r, _, rfl⟩ := Option.map_eq_some_iff.mp h
    exact pinned_deepOverlay_forced _ t

theorem withOwner_pinned (t : Target) {so : Bool} {src ref v v' : JVal}
    (h : withOwner so src ref v = some v') (hp : Pinned t v) : Pinned t v' := by
  rcases withOwner_spec h with ⟨_, rfl⟩ | ⟨_, refs, _, hs⟩
  · exact hp
  · exact pinned_congr (identity_setMetaKey hs (by simp) (by simp)) hp

theorem createPayload_pinned (t : Target) {enc : JVal → String} {view ref p : JVal} {cov : Option Step} {so : Bool}
    (h : createPayload enc (forced t) view cov so ref = some p) : Pinned t p := by
  obtain ⟨v, w, _, hw, hp⟩ := createPayload_spec h
  exact pinned_prepareForApi t hp (withOwner_pinned t hw (pinned_deepOverlay_forced v t))

theorem patchView_pinned (t : Target) {expected live ref w : JVal} {so r : Bool}
    (he : Pinned t expected) (h : patchView expected live ref so r = some w) : Pinned t w := by
  unfold patchView at h
  split at h
  · exact withOwner_pinned t h he
  · exact pinned_congr (identity_dropMetaKey h (by simp) (by simp)) he

theorem patchPayload_pinned (t : Target) {enc : JVal → String} {expected live ref p : JVal} {so r : Bool}
    (he : Pinned t expected) (h : patchPayload enc expected live ref so r = some p) : Pinned t p := by
  obtain ⟨w, hw, hp⟩ := patchPayload_spec h
  exact pinned_prepareForApi t hp (patchView_pinned t he hw)

section request
variable {enc : JVal → String} {defNs : String} {cmp : JVal → JVal → Bool} {pp : Bool}
  {rf : Rf} {owner : Owner} {stored : Option JVal} {req : Request}

theorem request_of_reconcile (h : (reconcile enc defNs cmp pp rf owner stored).request = some req) :
    (reconcileKrm enc defNs cmp rf owner stored).request = some req := by
  cases pp
  · cases h
  cases hw : (rf.api.namespaced && rf.ns.isNone)
  · rwa [reconcile_krm _ _ _ _ _ _ hw] at h
  · rw [reconcile_noNamespace _ _ _ _ _ _ hw] at h
    cases h

/-- Where the one request of a reconcile comes from; a caller that knows the method takes `hm ▸ request_cases h`. -/
theorem request_cases (h : (reconcile enc defNs cmp pp rf owner stored).request = some req) :
    match req.method with
    | .post => ∃ view p, materialise (forced rf.target) rf.tmpl rf.steps = some view ∧
        createPayload enc (forced rf.target) view rf.createOv (rf.owned && owner.ns == rf.ns) owner.ref = some p ∧
        req = ⟨.post, rf.api.plural, none, krNamespace rf.api defNs p, some p, rf.api.ver⟩
    | .patch => ∃ live expected p n, loadedOf rf stored = some live ∧
        materialise (forced rf.target) rf.tmpl rf.steps = some expected ∧
        patchPayload enc expected live owner.ref (rf.owned && owner.ns == rf.ns)
          (if (rf.owned && owner.ns == rf.ns) then ownerReffed live owner.ref else true) = some p ∧
        metaKey "name" live = some n ∧
        req = ⟨.patch, rf.api.plural, some n, krNamespace rf.api defNs live, some p, rf.api.ver⟩
    | .delete => ∃ live n, loadedOf rf stored = some live ∧ metaKey "name" live = some n ∧
        req = ⟨.delete, rf.api.plural, some n, krNamespace rf.api defNs live, none, rf.api.ver⟩ := by
  refine reconcileKrm_cases (P := fun run => run.request = some req → _) enc defNs cmp rf owner stored
    (failed := nofun) (deleteDone := fun _ _ => nofun) (wait := fun _ _ _ => nofun) (readonly := fun _ _ _ _ => nofun)
    (inSync := fun _ _ _ _ _ _ _ => nofun) (never := fun _ _ _ _ _ _ _ _ => nofun)
    (create := fun _ _ _ view p _ hv hp hq h => ?c) (patch := fun live expected p _ hl _ _ he _ _ hp hq h => ?p)
    (deleteMode := fun live _ hl _ hq h => ?d) (recreate := fun live _ _ hl _ _ _ _ _ hq h => ?d')
    (request_of_reconcile h)
  case c =>
    cases h
    cases createRequest_eq rf.target rf.api defNs rfl rfl (createPayload_pinned rf.target hp) hq
    exact ⟨view, p, hv, hp, rfl⟩
  case p =>
    cases h
    obtain ⟨n, hn, rfl⟩ := patchRequest_spec hq
    exact ⟨live, expected, p, n, hl, he, hp, hn, rfl⟩
  case d | d' =>
    cases h
    obtain ⟨n, hn, rfl⟩ := deleteRequest_spec hq
    exact ⟨live, n, hl, hn, rfl⟩

theorem loaded_of_reconcile (h : (reconcile enc defNs cmp pp rf owner stored).request = some req)
    (hm : req.method = .patch ∨ req.method = .delete) :
    ∃ live, loadedOf rf stored = some live ∧ metaKey "name" live = req.name ∧
      req.plural = rf.api.plural ∧ req.version = rf.api.ver ∧ req.nsArg = krNamespace rf.api defNs live := by
  rcases hm with hm | hm
  · obtain ⟨live, _, _, n, hl, _, _, hn, rfl⟩ := hm ▸ request_cases h
    exact ⟨live, hl, hn, rfl, rfl, rfl⟩
  · obtain ⟨live, n, hl, hn, rfl⟩ := hm ▸ request_cases h
    exact ⟨live, hl, hn, rfl, rfl, rfl⟩

theorem absent_request_is_post (h : (reconcile enc defNs cmp pp rf owner none).request = some req) :
    req.method = .post := by
  cases hm : req.method
  · rfl
  · obtain ⟨live, _, _, _, hl, _⟩ := hm ▸ request_cases h
    cases hl
  · obtain ⟨live, _, hl, _⟩ := hm ▸ request_cases h
    cases hl

end request

end Koreo.Rf
