/-
  `fix_conservative`: fix F5 only removes raises.  Wherever an extractor all of whose `raise`
  statements propagate (`raising d`; for `modelDispatch` that is `unrepairedDispatch`, the
  pre-repair code) returns a key set, the extractor `d` itself returns the same set — for every
  tree, grammatical or not.  Each function is followed down its own definition with the
  congruence lemmas of `Le`.
-/
import Koreo.Lemmas.CelAst

namespace Koreo.CelAst

/-- `a` is the result under `raising d`, `b` the one under `d` -/
def Le (a b : R) : Prop := a.isRaise = true ∨ a = b

theorem Le.refl (a : R) : Le a a := Or.inr rfl
theorem Le.raise (m : String) (b : R) : Le (.raise m) b := Or.inl rfl

theorem Le.site (f : Fall) (m : String) : Le (site .raise m) (site f m) := Or.inl rfl

theorem Le.cases {a b : R} (h : Le a b) : (∃ m, a = .raise m) ∨ a = b := by
  rcases h with h | h
  · cases a with
    | raise m => exact .inl ⟨m, rfl⟩
    | key _ => cases h
    | skip => cases h
  · exact .inr h

theorem Le.dot {a b : R} (h : Le a b) (s : String) : Le (a.dot s) (b.dot s) := by
  rcases h.cases with ⟨m, rfl⟩ | rfl
  · exact .raise m _
  · exact .refl _

/-- `generalizing := false`: otherwise the matches would abstract the hypothesis `h`, which mentions `a` and `b`,
    and would not be the terms that occur in the model. -/
theorem Le.bind {a b : R} (h : Le a b) {f g : String → R} (hfg : ∀ s, Le (f s) (g s)) :
    Le (match (generalizing := false) a with | .key s => f s | other => other)
       (match (generalizing := false) b with | .key s => g s | other => other) := by
  rcases h.cases with ⟨m, rfl⟩ | rfl
  · exact .raise m _
  · cases a with
    | key s => exact hfg s
    | skip => exact .refl _
    | raise m => exact .refl _

theorem Le.ite {c : Prop} [Decidable c] {a a' b b' : R} (ha : Le a a') (hb : Le b b') :
    Le (if c then a else b) (if c then a' else b') := by
  split <;> assumption

def raising (d : Dispatch) : Dispatch :=
  { d with
    dotLen := .raise, dotRoot := .raise, argLen := .raise, argRoot := .raise, idxLen := .raise,
    idxEmpty := .raise, idxTerm := .raise, idxRoot := .raise, primLen := .raise, primKind := .raise }

theorem unrepairedDispatch_eq : unrepairedDispatch = raising modelDispatch := rfl

variable (d : Dispatch)

theorem primary_le (t : Cel) : Le (processPrimary (raising d) t) (processPrimary d t) := by
  unfold processPrimary
  simp only [raising]
  split
  · exact .refl _
  · split
    · split
      · exact .refl _
      · exact .ite (.refl _) (.site _ _)
    · exact .site _ _

theorem indexTerminal_le (t : Cel) : Le (indexTerminal (raising d) t) (indexTerminal d t) := by
  unfold indexTerminal
  simp only [raising]
  split
  · exact .refl _
  · refine .ite (primary_le d _) (.ite ?_ (.site _ _))
    split
    · exact .refl _
    · exact .site _ _
    · exact (primary_le d _).bind fun s => .ite (.site _ _) (.refl _)

def NameLe (t : Cel) : Prop :=
  Le (processMemberDot (raising d) t) (processMemberDot d t) ∧
  Le (processMemberIndex (raising d) t) (processMemberIndex d t) ∧
  Le (processMemberDotArg (raising d) t) (processMemberDotArg d t)

theorem dot_le (t : Cel) (ih : ∀ s : Cel, s.size < t.size → NameLe d s) :
    Le (processMemberDot (raising d) t) (processMemberDot d t) := by
  -- the exits, here and in the two lemmas below: a Python-level error (a `Token` where a `Tree` is indexed, a missing
  -- child) is the same exception on both sides, a `raise` statement is `Le.site`, the call on the receiver root the
  -- induction hypothesis
  unfold processMemberDot
  simp only [raising]
  split
  · exact .refl _
  · split
    · split
      · exact .refl _
      · exact .refl _
      · split
        · exact .refl _
        · have ih := ih _ Cel.size_root_lt
          refine .ite ?_ (.site _ _)
          split
          · exact ih.1.dot _
          · exact ih.2.1.dot _
          · exact ih.2.2.dot _
          · exact (primary_le d _).dot _
          · exact .refl _
    · exact .site _ _

theorem idx_le (t : Cel) (ih : ∀ s : Cel, s.size < t.size → NameLe d s) :
    Le (processMemberIndex (raising d) t) (processMemberIndex d t) := by
  unfold processMemberIndex
  simp only [raising]
  split
  · exact .refl _
  · split
    · refine (indexTerminal_le d _).bind fun tvs => ?_
      split
      · exact .refl _
      · exact .refl _
      · split
        · exact .refl _
        · have ih := ih _ Cel.size_root_lt
          refine .ite ?_ (.site _ _)
          split
          · exact ih.1.dot _
          · exact ih.2.1.dot _
          · exact ih.2.2.dot _
          · exact (primary_le d _).dot _
          · exact .refl _
    · exact .site _ _

theorem arg_le (t : Cel) (ih : ∀ s : Cel, s.size < t.size → NameLe d s) :
    Le (processMemberDotArg (raising d) t) (processMemberDotArg d t) := by
  unfold processMemberDotArg
  simp only [raising]
  split
  · exact .refl _
  · split
    · split
      · exact .refl _
      · exact .refl _
      · split
        · exact .refl _
        · have ih := ih _ Cel.size_root_lt
          refine .ite ?_ (.site _ _)
          split
          · exact ih.1.dot _
          · exact ih.2.1.dot _
          · exact ih.2.2.dot _
          · exact (primary_le d _).dot _
          · exact (primary_le d _).dot _
          · exact .refl _
    · exact .site _ _

theorem nameLe (t : Cel) : NameLe d t := by
  induction t using (measure Cel.size).wf.induction with
  | _ t ih => exact ⟨dot_le d t ih, idx_le d t ih, arg_le d t ih⟩

theorem visit_le (t : Cel) : Le (visit (raising d) t) (visit d t) := by
  unfold visit
  split
  · exact .refl _
  · exact .ite (nameLe d _).1 (.ite (nameLe d _).2.1 (.refl _))

theorem extractWith_raising {t : Cel} {ks : List String} (h : extractWith (raising d) t = .ok ks) :
    extractWith d t = .ok ks := by
  have hno := (extractWith_eq_ok.1 h).1
  -- no visit raised under `raising d`, so `Le` is equality at every subtree
  have : t.subtrees.map (visit d) = t.subtrees.map (visit (raising d)) :=
    List.map_congr_left fun s hs => ((visit_le d s).resolve_left (Bool.eq_false_iff.1 (hno s hs))).symm
  rw [extractWith, this]
  exact h

end Koreo.CelAst
