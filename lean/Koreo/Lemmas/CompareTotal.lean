/-
  C05: on a well-formed target and a last-applied tree of the target's shape the (repaired)
  comparator never raises — whatever the live object is, it answers "match" or "differences"
  (`vm_noRaise`); and, with no hypothesis at all, it never answers with the empty set (`vm_nonempty`).
-/
import Koreo.Lemmas.Compare
namespace Koreo.Compare
open Koreo Koreo.JVal

theorem Res.join_noRaise {a b : Res} (ha : a.mayRaise = false) (hb : b.mayRaise = false) :
    (a.join b).mayRaise = false := by
  rw [Res.join_mayRaise, ha, hb]; rfl

theorem setMatch_noRaise (txs axs : List JVal) : (setMatch txs axs).mayRaise = false := by
  fun_cases setMatch txs axs <;> rfl

mutual
theorem vm_noRaise (t a la : JVal) (s : Bool) (hw : wfB t = true) (hl : laOkB t la = true) :
    (validateMatch t a la s).mayRaise = false := by
  match t with
  | .obj tkvs =>
    rw [wfB_obj] at hw
    rw [laOkB.eq_1, Bool.and_eq_true] at hl
    cases a with
    | obj akvs =>
      rw [vm_obj hw.1]
      exact vmO_noRaise (specDirs tkvs) akvs la tkvs (specMap_strs _) hw.2 hl.1 hl.2
    | _ => rfl
  | .arr txs =>
    rw [wfB_arr] at hw
    rw [laOkB.eq_2, Bool.and_eq_true] at hl
    cases a with
    | arr axs =>
      cases s
      · rw [vm_arr_of_laOk hl.1]
        split
        · exact vmL_noRaise txs axs _ hw hl.2
        · rfl
      · exact setMatch_noRaise _ _
    | _ => rfl
  | .null | .bool _ | .int _ | .flt _ | .str _ => rw [vm_scalar rfl]; split <;> rfl
termination_by structural t
theorem vmO_noRaise (d : Dirs) (akvs : List (String × JVal)) (la : JVal) (tkvs : List (String × JVal))
    (hd : ∀ k f, fieldsFor k d.asMap = some f → f.all isStr = true)
    (hw : wfO d tkvs = true) (hla : laMapOk la = true) (hl : laOkO d (laObjKvs la) tkvs = true) :
    (vmO d akvs la tkvs).mayRaise = false := by
  match tkvs with
  | [] => rw [vmO.eq_1]; rfl
  | (k, tv) :: rest =>
    obtain ⟨hkd, hwv, hwr⟩ := wfO_cons.mp hw
    obtain ⟨hl1, hlr⟩ := laOkO_cons.mp hl
    have ih := vmO_noRaise d akvs la rest hd hwr hla hlr
    cases hs : skippedKey k
    · replace hkd := hkd (isDirective_of_not_skipped hs)
      replace hl1 := hl1 hs
      rw [vmO_cons_of_laOk tv rest hs hla]
      refine Res.join_noRaise ?_ ih
      cases cmpValue d k akvs (laVal (laObjKvs la) k) with
      | none => rfl
      | some cv =>
        show (vmVal d k tv cv (laVal (laObjKvs la) k)).mayRaise = false
        match hf : fieldsFor k d.asMap with
        | none =>
          rw [laOkVal_plain hf] at hl1
          rw [vmVal_plain hf hkd]
          split
          · split <;> rfl
          · exact vm_noRaise tv cv _ _ hwv hl1
        | some fields =>
          cases tv with
          | arr tms =>
            obtain ⟨hto, -⟩ := keyDirOk_keyed hf hkd
            rw [laOkVal_keyed hf] at hl1
            rw [wfB_arr] at hwv
            obtain ⟨ldict, hL, ⟨_, adict, -, -, -, e⟩ | ⟨-, e⟩⟩ :=
              vmVal_keyed cv (laVal (laObjKvs la) k) hf (hd k fields hf) hto
            · rw [e]; exact vmK_noRaise fields (hd k fields hf) _ adict ldict hL tms hwv hl1
            · rw [e]; rfl
          | _ => simp [keyDirOk, hf] at hkd
    · rw [vmO_cons, hs]; exact ih
termination_by structural tkvs
theorem vmL_noRaise (txs axs items : List JVal) (hw : wfL txs = true) (hl : laOkL txs items = true) :
    (vmL txs axs items).mayRaise = false := by
  match txs, axs with
  | [], _ => rw [vmL_nil_left]; rfl
  | _ :: _, [] => rw [vmL_nil_right]; rfl
  | t :: ts, a :: as =>
    rw [wfL_cons] at hw
    rw [laOkL.eq_2, Bool.and_eq_true] at hl
    rw [vmL.eq_1]
    have h1 := vm_noRaise t a (items.head?.getD .null) false hw.1 hl.1
    cases hv : validateMatch t a (items.head?.getD .null) false with
    | ok => exact vmL_noRaise ts as _ hw.2 hl.2
    | bad d r => rw [hv] at h1; exact h1
termination_by structural txs
theorem vmK_noRaise (fields : List JVal) (hf : fields.all isStr = true) (lams : List JVal)
    (adict ldict : List (String × JVal))
    (hL : ∀ key, (lookup key ldict).getD .null = laMember fields key lams)
    (tms : List JVal) (hw : wfL tms = true) (hl : laOkK fields lams tms = true) :
    (vmK fields adict ldict tms).mayRaise = false := by
  match tms with
  | [] => rw [vmK.eq_1]; rfl
  | tm :: rest =>
    rw [wfL_cons] at hw
    cases tm with
    | obj mkvs =>
      rw [laOkK.eq_2, Bool.and_eq_true] at hl
      rw [vmK.eq_2]
      refine Res.join_noRaise ?_ (vmK_noRaise fields hf lams adict ldict hL rest hw.2 hl.2)
      obtain ⟨key, hkey⟩ := objKey_isSome fields hf mkvs
      have hl1 := hl.1
      simp only [hkey] at hl1 ⊢
      split
      · rfl                                   -- never compared, or overwritten by a later member
      · split
        · rfl                                 -- no live member with the key
        · rw [hL]; exact vm_noRaise (.obj mkvs) _ _ _ hw.1 hl1
    | _ =>
      rw [vmK.eq_def]
      exact Res.join_noRaise rfl (vmK_noRaise fields hf lams adict ldict hL rest hw.2 hl)
termination_by structural tms
end

def Res.nonempty : Res → Bool
  | .ok => true
  | .bad d r => d || r

theorem Res.join_nonempty {a b : Res} (ha : a.nonempty = true) (hb : b.nonempty = true) :
    (a.join b).nonempty = true := by
  cases a with
  | ok => simpa [Res.join] using hb
  | bad d r =>
    cases b with
    | ok => simpa [Res.join] using ha
    | bad d' r' =>
      show ((d || d') || (r || r')) = true
      rcases (Bool.or_eq_true d r).mp ha with h | h <;> simp [h]

theorem setMatch_nonempty (txs axs : List JVal) : (setMatch txs axs).nonempty = true := by
  fun_cases setMatch txs axs <;> rfl

theorem keyedNone_nonempty (f : List JVal) (cv lav : JVal) : (keyedNone f cv lav).nonempty = true := by
  fun_cases keyedNone f cv lav <;> rfl

theorem keyedDispatch_nonempty {T : Option (List (String × JVal))} {A L : Option (Option (List (String × JVal)))}
    {f : List (String × JVal) → List (String × JVal) → Res} (h : ∀ a l, (f a l).nonempty = true) :
    (keyedDispatch T A L f).nonempty = true := by
  fun_cases keyedDispatch T A L f
  · exact h _ _     -- all three are keyed collections
  · rfl             -- the live value is none: differences
  · rfl             -- a `_list_to_object` raised

mutual
theorem vm_nonempty (t a la : JVal) (s : Bool) : (validateMatch t a la s).nonempty = true := by
  match t with
  | .obj tkvs =>
    cases a with
    | obj akvs =>
      rw [validateMatch.eq_1]
      split
      · rfl                                   -- the directives do not parse: raised
      · exact vmO_nonempty _ akvs la tkvs
    | _ => rfl
  | .arr txs =>
    cases a with
    | arr axs =>
      rw [validateMatch.eq_4]
      split
      · exact setMatch_nonempty _ _           -- compared as sets
      · split
        · rfl                                 -- both empty
        · split
          · rfl                               -- of different length
          · split
            · rfl                             -- the last-applied value has no items: raised
            · exact vmL_nonempty txs axs _
    | _ => rfl
  | .null | .bool _ | .int _ | .flt _ | .str _ => rw [vm_scalar rfl]; split <;> rfl
termination_by structural t
theorem vmO_nonempty (d : Dirs) (akvs : List (String × JVal)) (la : JVal) (tkvs : List (String × JVal)) :
    (vmO d akvs la tkvs).nonempty = true := by
  match tkvs with
  | [] => rw [vmO.eq_1]; rfl
  | (k, tv) :: rest =>
    rw [vmO_cons]
    refine Res.join_nonempty ?_ (vmO_nonempty d akvs la rest)
    -- every way through the step ends in an answer
    split
    · rfl                                     -- a key that is never compared
    · split
      · rfl                                   -- the last-applied value is junk: raised,
      · split <;> rfl                         -- or differences when the key is missing anyway
      · split
        · rfl                                 -- no value to compare with
        · unfold vmVal
          split
          · cases tv with
            | arr tms =>
              simp only []
              split
              · exact keyedDispatch_nonempty fun _ _ => vmK_nonempty _ _ _ tms
              · exact keyedNone_nonempty _ _ _
            | _ => exact keyedNone_nonempty _ _ _
          · exact vm_nonempty tv _ _ _
termination_by structural tkvs
theorem vmL_nonempty (txs axs items : List JVal) : (vmL txs axs items).nonempty = true := by
  match txs, axs with
  | [], _ => rw [vmL_nil_left]; rfl
  | _ :: _, [] => rw [vmL_nil_right]; rfl
  | t :: ts, a :: as =>
    rw [vmL.eq_1]
    have h1 := vm_nonempty t a (items.head?.getD .null) false
    cases hv : validateMatch t a (items.head?.getD .null) false with
    | ok => exact vmL_nonempty ts as _
    | bad d r => rw [hv] at h1; exact h1
termination_by structural txs
theorem vmK_nonempty (fields : List JVal) (adict ldict : List (String × JVal)) (tms : List JVal) :
    (vmK fields adict ldict tms).nonempty = true := by
  match tms with
  | [] => rw [vmK.eq_1]; rfl
  | tm :: rest =>
    have ih := vmK_nonempty fields adict ldict rest
    cases tm with
    | obj mkvs =>
      rw [vmK.eq_2]
      refine Res.join_nonempty ?_ ih
      split
      · rfl                                   -- no key
      · split
        · rfl                                 -- never compared, or overwritten by a later member
        · split
          · rfl                               -- no live member with the key
          · exact vm_nonempty (.obj mkvs) _ _ _
    | _ => rw [vmK.eq_def]; exact Res.join_nonempty rfl ih
termination_by structural tms
end

end Koreo.Compare
