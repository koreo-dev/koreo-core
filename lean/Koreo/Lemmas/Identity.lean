/-
  `Pinned t` sees a value only through the four lookups of `identity` (`getKey "apiVersion"` / `"kind"`,
  `metaKey "name"` / `"namespace"`), so an operation that leaves them alone preserves it (`pinned_congr`): the forced
  overlay establishes them over any value, `strip` keeps them because they are strings, and `setMetaKey`,
  `dropMetaKey` and `prepareForApi` replace `metadata` by a map that reads the same at `name` and `namespace`
  (`identity_insert_metadata`).  `_prepare_for_api` (defined in Koreo/Payload.lean) is used in closed form: `subMap`
  reads a container that may be missing, and the payload is the stripped object with three nested inserts
  (`prepareForApi_spec`; what that means for directive keys, the annotation and owner references is in
  Lemmas/Payload.lean).  Last come the objects and requests kr8s builds from a payload.  (The lemma namespace
  `Koreo.Rf` is not the structure `Koreo.ResourceFn.Rf`.)  Core Lean only.
-/
import Koreo.Lemmas.Json
import Koreo.Payload
namespace Koreo.Rf
open Koreo JVal Koreo.Identity Koreo.Payload

theorem deepOverlay_null (ov : JVal) : deepOverlay .null ov = ov := by
  cases ov <;> rfl

theorem deepOverlay_str (r : JVal) (s : String) : deepOverlay r (.str s) = .str s := rfl

theorem deepOverlay_nonobj (r : JVal) (okvs : Fields) (h : r.isObj = false) :
    deepOverlay r (.obj okvs) = .obj okvs := by
  cases r with
  | obj _ => cases h
  | _ => rfl

/-- `.getD .null`, here and in `getKey_deepOverlay`: under `_deep_overlay` a missing key (and, there, an `x` that is no
    map at all) behaves like null, so one equation covers every case. -/
theorem lookup_deepOverlayO (k : String) : ∀ (okvs : Fields), (JVal.keys okvs).Nodup → ∀ (rkvs : Fields),
    JVal.lookup k (deepOverlayO rkvs okvs) =
      match JVal.lookup k okvs with
      | some ov => some (deepOverlay ((JVal.lookup k rkvs).getD .null) ov)
      | none => JVal.lookup k rkvs
  | [], _, rkvs => rfl
  | (k', ov) :: rest, hn, rkvs => by
    have hn' := nodup_keys_cons.mp hn
    rw [deepOverlayO, lookup_deepOverlayO k rest hn'.2, lookup_cons]
    by_cases h : k' = k
    · subst h
      cases JVal.lookup k' rkvs <;> simp [lookup_none_of_not_mem hn'.1, lookup_insert_self, deepOverlay_null]
    · simp [h, lookup_insert_ne _ (Ne.symm h)]

theorem getKey_deepOverlay (x : JVal) (okvs : Fields) (hn : (JVal.keys okvs).Nodup) (k : String) (ov : JVal)
    (h : JVal.lookup k okvs = some ov) :
    getKey k (deepOverlay x (.obj okvs)) = some (deepOverlay ((getKey k x).getD .null) ov) := by
  cases x with
  | obj rkvs => rw [deepOverlay, getKey, lookup_deepOverlayO k okvs hn rkvs, h, getKey]
  | _ => simp [deepOverlay, getKey, h, deepOverlay_null]

theorem pinned_deepOverlay_forced (x : JVal) (t : Target) : Pinned t (deepOverlay x (forced t)) := by
  obtain ⟨ver, kind, name, ns⟩ := t
  -- `forced t` is `{apiVersion, kind, metadata: m}` with `m` = `{name}` or `{name, namespace}`: the keys are distinct
  -- at both levels, so every string it binds is read back
  have top (m : Fields) (k : String) (ov : JVal) := getKey_deepOverlay x
    [("apiVersion", .str ver), ("kind", .str kind), ("metadata", .obj m)] (by simp [JVal.keys]) k ov
  have inner (m : Fields) (hm : (JVal.keys m).Nodup) (k s : String) (h : JVal.lookup k m = some (.str s)) :
      metaKey k (deepOverlay x (.obj [("apiVersion", .str ver), ("kind", .str kind), ("metadata", .obj m)])) =
        some (.str s) := by
    rw [metaKey, top m "metadata" _ rfl, Option.bind_some, getKey_deepOverlay _ _ hm k _ h, deepOverlay_str]
  refine ⟨top _ "apiVersion" _ rfl, top _ "kind" _ rfl, ?_⟩
  cases ns with
  | none => exact ⟨inner _ (by simp [JVal.keys]) "name" _ rfl, nofun⟩
  | some n =>
    exact ⟨inner _ (by simp [JVal.keys]) "name" _ rfl,
      fun _ hn => Option.some.inj hn ▸ inner _ (by simp [JVal.keys]) "namespace" _ rfl⟩

theorem getKey_strip {k : String} (hk : isDirective k = false) (v : JVal) :
    getKey k (strip v) = (getKey k v).map strip := by
  cases v with
  | obj kvs => simp [strip, getKey, lookup_stripO hk]
  | _ => simp [strip, getKey]

theorem metaKey_strip {k : String} (hk : isDirective k = false) (v : JVal) :
    metaKey k (strip v) = (metaKey k v).map strip := by
  unfold metaKey
  rw [getKey_strip (by decide +kernel)]
  cases getKey "metadata" v with
  | none => rfl
  | some m => simp [getKey_strip hk]

theorem pinned_strip (t : Target) (v : JVal) (h : Pinned t v) : Pinned t (strip v) := by
  obtain ⟨h1, h2, h3, h4⟩ := h
  -- the four values of a pinned identity are strings, which `strip` leaves alone
  refine ⟨?_, ?_, ?_, fun n hn => ?_⟩
  · rw [getKey_strip (by decide +kernel), h1]; rfl
  · rw [getKey_strip (by decide +kernel), h2]; rfl
  · rw [metaKey_strip (by decide +kernel), h3]; rfl
  · rw [metaKey_strip (by decide +kernel), h4 n hn]; rfl

theorem pinned_congr {t : Target} {v v' : JVal} (h : identity v' = identity v) (hp : Pinned t v) : Pinned t v' := by
  simp only [identity, Ident.mk.injEq] at h
  obtain ⟨h1, h2, h3, h4⟩ := h
  unfold Pinned
  rw [h1, h2, h3, h4]
  exact hp

theorem getKey_insert_metadata {k : String} (hk : k ≠ "metadata") (x : JVal) (kvs : Fields) :
    getKey k (.obj (JVal.insert "metadata" x kvs)) = getKey k (.obj kvs) := by
  simp [getKey, lookup_insert_ne _ hk]

theorem metaKey_insert_metadata (k : String) (m kvs : Fields) :
    metaKey k (.obj (JVal.insert "metadata" (.obj m) kvs)) = JVal.lookup k m := by
  simp [metaKey, getKey, lookup_insert_self]

theorem metaKey_of_lookup {m kvs : Fields} (hm : JVal.lookup "metadata" kvs = some (.obj m)) (k : String) :
    metaKey k (.obj kvs) = JVal.lookup k m := by
  simp [metaKey, getKey, hm]

def subMap (k : String) (kvs : Fields) : Option Fields :=
  match JVal.lookup k kvs with
  | none => some []
  | some (.obj m) => some m
  | some _ => none

theorem subMap_cases {k : String} {kvs m : Fields} (h : subMap k kvs = some m) :
    (JVal.lookup k kvs = none ∧ m = []) ∨ JVal.lookup k kvs = some (.obj m) := by
  unfold subMap at h
  split at h <;> cases h
  · exact .inl ⟨‹_›, rfl⟩
  · exact .inr ‹_›

theorem subMap_of_lookup {k : String} {kvs m : Fields} (h : JVal.lookup k kvs = some (.obj m)) :
    subMap k kvs = some m := by
  rw [subMap, h]

theorem metaKey_of_subMap {kvs m : Fields} (h : subMap "metadata" kvs = some m) (k : String) :
    metaKey k (.obj kvs) = JVal.lookup k m := by
  rcases subMap_cases h with ⟨hl, rfl⟩ | hl
  · simp [metaKey, getKey, hl]
  · exact metaKey_of_lookup hl k

theorem identity_insert_metadata {kvs m m' : Fields} (hm : subMap "metadata" kvs = some m)
    (h1 : JVal.lookup "name" m' = JVal.lookup "name" m)
    (h2 : JVal.lookup "namespace" m' = JVal.lookup "namespace" m) :
    identity (.obj (JVal.insert "metadata" (.obj m') kvs)) = identity (.obj kvs) := by
  simp only [identity, getKey_insert_metadata (show "apiVersion" ≠ "metadata" by simp),
    getKey_insert_metadata (show "kind" ≠ "metadata" by simp), metaKey_insert_metadata, metaKey_of_subMap hm, h1, h2]

theorem setMetaKey_spec {k : String} {x v v' : JVal} (h : setMetaKey k x v = some v') :
    ∃ kvs m, v = .obj kvs ∧ JVal.lookup "metadata" kvs = some (.obj m) ∧
      v' = .obj (JVal.insert "metadata" (.obj (JVal.insert k x m)) kvs) := by
  revert h
  fun_cases setMetaKey k x v <;> intro h <;> cases h
  exact ⟨_, _, rfl, ‹_›, rfl⟩

theorem dropMetaKey_spec {k : String} {v v' : JVal} (h : dropMetaKey k v = some v') :
    ∃ kvs m, v = .obj kvs ∧ JVal.lookup "metadata" kvs = some (.obj m) ∧
      v' = .obj (JVal.insert "metadata" (.obj (JVal.erase k m)) kvs) := by
  revert h
  fun_cases dropMetaKey k v <;> intro h <;> cases h
  exact ⟨_, _, rfl, ‹_›, rfl⟩

theorem metaKey_setMetaKey_ne {k k' : String} {x v v' : JVal} (h : setMetaKey k x v = some v') (hk : k' ≠ k) :
    metaKey k' v' = metaKey k' v := by
  obtain ⟨kvs, m, rfl, hm, rfl⟩ := setMetaKey_spec h
  rw [metaKey_insert_metadata, metaKey_of_lookup hm, lookup_insert_ne _ hk]

theorem metaKey_setMetaKey_self {k : String} {x v v' : JVal} (h : setMetaKey k x v = some v') :
    metaKey k v' = some x := by
  obtain ⟨kvs, m, rfl, hm, rfl⟩ := setMetaKey_spec h
  rw [metaKey_insert_metadata, lookup_insert_self]

theorem identity_setMetaKey {k : String} {x v v' : JVal} (h : setMetaKey k x v = some v')
    (hk1 : k ≠ "name") (hk2 : k ≠ "namespace") : identity v' = identity v := by
  obtain ⟨kvs, m, rfl, hm, rfl⟩ := setMetaKey_spec h
  exact identity_insert_metadata (subMap_of_lookup hm) (lookup_insert_ne _ (Ne.symm hk1) _)
    (lookup_insert_ne _ (Ne.symm hk2) _)

theorem identity_dropMetaKey {k : String} {v v' : JVal} (h : dropMetaKey k v = some v')
    (hk1 : k ≠ "name") (hk2 : k ≠ "namespace") : identity v' = identity v := by
  obtain ⟨kvs, m, rfl, hm, rfl⟩ := dropMetaKey_spec h
  exact identity_insert_metadata (subMap_of_lookup hm) (lookup_erase_ne (Ne.symm hk1) _)
    (lookup_erase_ne (Ne.symm hk2) _)

theorem prepareForApi_eq (enc : JVal → String) (o : JVal) :
    prepareForApi enc o =
      match strip o with
      | .obj kvs =>
        (subMap "metadata" kvs).bind fun m =>
        (subMap "annotations" m).bind fun a =>
          some (.obj (JVal.insert "metadata"
            (.obj (JVal.insert "annotations" (.obj (JVal.insert lastApplied (.str (enc (.obj kvs))) a)) m)) kvs))
      | _ => none := by
  unfold prepareForApi
  cases strip o with
  | obj kvs =>
    dsimp only
    cases hm : JVal.lookup "metadata" kvs with
    | none => simp [subMap, hm, lookup_insert_self, insert_insert_same]
    | some mv =>
      cases mv with
      | obj m =>
        simp only [subMap, hm, Option.bind_some]
        cases ha : JVal.lookup "annotations" m with
        | none => simp [lookup_insert_self, insert_insert_same]
        | some av => cases av <;> simp [ha]
      | _ => simp [subMap, hm]
  | _ => rfl

theorem prepareForApi_spec {enc : JVal → String} {o p : JVal} (h : prepareForApi enc o = some p) :
    ∃ kvs m a, strip o = .obj kvs ∧ subMap "metadata" kvs = some m ∧ subMap "annotations" m = some a ∧
      p = .obj (JVal.insert "metadata"
            (.obj (JVal.insert "annotations" (.obj (JVal.insert lastApplied (.str (enc (.obj kvs))) a)) m)) kvs) := by
  rw [prepareForApi_eq] at h
  split at h
  · obtain ⟨m, hm, h⟩ := Option.bind_eq_some_iff.mp h
    obtain ⟨a, ha, h⟩ := Option.bind_eq_some_iff.mp h
    cases h
    exact ⟨_, m, a, ‹_›, hm, ha, rfl⟩
  · cases h

theorem metaKey_prepareForApi {enc : JVal → String} {o p : JVal} (h : prepareForApi enc o = some p) {k : String}
    (hk : k ≠ "annotations") : metaKey k p = metaKey k (strip o) := by
  obtain ⟨kvs, m, a, hs, hm, _, rfl⟩ := prepareForApi_spec h
  rw [hs, metaKey_insert_metadata, metaKey_of_subMap hm, lookup_insert_ne _ hk]

theorem identity_prepareForApi {enc : JVal → String} {o p : JVal} (h : prepareForApi enc o = some p) :
    identity p = identity (strip o) := by
  obtain ⟨kvs, m, a, hs, hm, _, rfl⟩ := prepareForApi_spec h
  rw [hs]
  exact identity_insert_metadata hm (lookup_insert_ne _ (by simp) _) (lookup_insert_ne _ (by simp) _)

theorem pinned_prepareForApi (t : Target) {enc : JVal → String} {o p : JVal}
    (h : prepareForApi enc o = some p) (hp : Pinned t o) : Pinned t p :=
  pinned_congr (identity_prepareForApi h) (pinned_strip t o hp)

theorem metaKey_krRaw (c : ApiClass) (k : String) (v : JVal) : metaKey k (krRaw c v) = metaKey k v := by
  cases v with
  | obj kvs =>
    simp only [krRaw, metaKey, getKey, lookup_insert_ne _ (show "metadata" ≠ "apiVersion" by simp),
      lookup_insert_ne _ (show "metadata" ≠ "kind" by simp)]
  | _ => rfl

theorem metaKey_krNew_ne {v v' : JVal} {ns : Option String} (h : krNew v ns = some v') {k : String}
    (hk : k ≠ "namespace") : metaKey k v' = metaKey k v := by
  cases ns with
  | none => cases h; rfl
  | some n => exact metaKey_setMetaKey_ne h hk

theorem metaKey_krLoaded {c : ApiClass} {stored loaded : JVal} {ns : Option String}
    (h : krLoaded c stored ns = some loaded) {k : String} (hk : k ≠ "namespace") :
    metaKey k loaded = metaKey k stored := by
  obtain ⟨o, ho, rfl⟩ := Option.map_eq_some_iff.mp h
  rw [metaKey_krRaw, metaKey_krNew_ne ho hk]

theorem krLoaded_spec {c : ApiClass} {stored loaded : JVal} {ns : Option String}
    (h : krLoaded c stored ns = some loaded) :
    metaKey "name" loaded = metaKey "name" stored ∧
    (∀ n, c.namespaced = true → ns = some n → metaKey "namespace" loaded = some (.str n)) := by
  refine ⟨metaKey_krLoaded h (by simp), fun n hc hn => ?_⟩
  obtain ⟨o, ho, rfl⟩ := Option.map_eq_some_iff.mp h
  rw [hc, hn, if_pos rfl] at ho
  rw [metaKey_krRaw]
  exact metaKey_setMetaKey_self ho

theorem createRequest_eq (t : Target) (c : ApiClass) (defNs : String) (hv : c.ver = t.ver) (hk : c.kind = t.kind)
    {p : JVal} {req : Request} (hp : Pinned t p) (h : createRequest c defNs p t.ns = some req) :
    req = ⟨.post, c.plural, none, krNamespace c defNs p, some p, c.ver⟩ := by
  -- kr8s adds nothing to a pinned payload: the namespace its constructor writes and the kind / apiVersion its `raw`
  -- getter re-imposes are already there with the same values
  obtain ⟨h1, h2, _, h4⟩ := hp
  obtain ⟨o, hn, rfl⟩ := Option.map_eq_some_iff.mp h
  have ho : o = p := by
    cases hns : t.ns with
    | none => rw [hns] at hn; exact (Option.some.inj hn).symm
    | some n =>
      rw [hns] at hn
      obtain ⟨kvs, m, rfl, hm, rfl⟩ := setMetaKey_spec hn
      have hl := h4 n hns
      rw [metaKey_of_lookup hm] at hl
      rw [insert_of_lookup hl, insert_of_lookup hm]
  subst ho
  suffices krRaw c o = o by rw [this]
  cases o with
  | obj kvs => rw [krRaw, hv, hk, insert_of_lookup h2, insert_of_lookup h1]
  | _ => rfl

theorem patchRequest_spec {c : ApiClass} {defNs : String} {live p : JVal} {req : Request}
    (h : patchRequest c defNs live p = some req) :
    ∃ n, metaKey "name" live = some n ∧ req = ⟨.patch, c.plural, some n, krNamespace c defNs live, some p, c.ver⟩ := by
  obtain ⟨n, hn, rfl⟩ := Option.map_eq_some_iff.mp h
  exact ⟨n, hn, rfl⟩

theorem deleteRequest_spec {c : ApiClass} {defNs : String} {live : JVal} {req : Request}
    (h : deleteRequest c defNs live = some req) :
    ∃ n, metaKey "name" live = some n ∧ req = ⟨.delete, c.plural, some n, krNamespace c defNs live, none, c.ver⟩ := by
  obtain ⟨n, hn, rfl⟩ := Option.map_eq_some_iff.mp h
  exact ⟨n, hn, rfl⟩

end Koreo.Rf
