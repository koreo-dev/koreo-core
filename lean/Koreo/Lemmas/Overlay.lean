/-
  The overlay machinery of `Koreo/Overlay.lean` against its specification.  The index compiled by
  `_overlay_indexer` stores the positions `[b, b + leaves)` in order, so the applier run over it is the
  ordered deep merge `mergeO` (`applyLoop_eq_mergeO`: any offset, any surrounding value list); `mergeO`
  and `dovO` (`_deep_overlay`) are read back key by key; `dovO` is idempotent for overlays with distinct
  keys; and the materialisation loops with their PermFail exits are the plain loop unless some step
  fails (`overlaysLoopF_eq`).  The last section serves C11: a block of literals arrives as written.
  Core Lean only.
-/
import Koreo.Overlay
import Koreo.Lemmas.Json
namespace Koreo.Overlay
open Koreo JVal
variable {ε : Type}

mutual
theorem indexV_values : ∀ (s : OSpec ε) (b : Nat), (indexV s b).2 = leavesV s
  | .leaf e, b => by simp [indexV, leavesV]
  | .node kvs, b => by simp [indexV, leavesV, indexO_values kvs b]
theorem indexO_values : ∀ (kvs : List (String × OSpec ε)) (b : Nat), (indexO kvs b).2 = leavesO kvs
  | [], b => by simp [indexO, leavesO]
  | (k, s) :: rest, b => by
    simp [indexO, leavesO, indexV_values s b, indexO_values rest]
end

mutual
theorem positionsV_index : ∀ (s : OSpec ε) (b : Nat),
    positionsV (indexV s b).1 = List.range' b (leavesV s).length
  | .leaf e, b => by simp [indexV, leavesV, positionsV]
  | .node kvs, b => by simp [indexV, leavesV, positionsV, positionsO_index kvs b]
theorem positionsO_index : ∀ (kvs : List (String × OSpec ε)) (b : Nat),
    positionsO (indexO kvs b).1 = List.range' b (leavesO kvs).length
  | [], b => by simp [indexO, leavesO, positionsO]
  | (k, s) :: rest, b => by
    simp only [indexO, leavesO, positionsO, positionsV_index s b, indexV_values,
      positionsO_index rest, List.length_append]
    rw [List.range'_append_1]
end

theorem getD_mid (pre post : List JVal) (x : JVal) (d : JVal) :
    (pre ++ x :: post).getD pre.length d = x := by
  simp [List.getD]

theorem keysO_mapO {α β : Type} (f : α → β) : ∀ kvs : List (String × OSpec α), keysO (mapO f kvs) = keysO kvs
  | [] => rfl
  | (k, _) :: rest => congrArg (k :: ·) (keysO_mapO f rest)

mutual
theorem mapV_id : ∀ (s : OSpec ε), mapV id s = s
  | .leaf _ => rfl
  | .node kvs => by simp [mapV, mapO_id kvs]
theorem mapO_id : ∀ (kvs : List (String × OSpec ε)), mapO id kvs = kvs
  | [] => rfl
  | (k, s) :: rest => by simp [mapO, mapV_id s, mapO_id rest]
end

theorem fieldsOf_of_not_obj {b : Option JVal} (hb : ∀ kvs, b ≠ some (.obj kvs)) : fieldsOf b = [] := by
  fun_cases fieldsOf b
  · exact absurd rfl (hb _)
  · rfl

/- The applier reads `base.get(key)` of the ORIGINAL base while it fills a copy (`acc`); the merge reads what
   it has built so far.  The two agree because of the loop invariant `∀ k ∈ keysO kvs, lookup k acc = lookup k base`:
   the keys still to be written read the same in the copy and in the base (keys are distinct, and only keys already
   passed have been written).  `pre` / `post` generalise the offset: the values of this subtree sit anywhere inside
   the one positional list, at the position the index was compiled for, so the statement survives the step from a
   node to its children and from one sibling to the next. -/
mutual
theorem applyV_eq_mergeV (f : ε → JVal) : ∀ (s : OSpec ε), s.WF → ∀ (bv : Option JVal) (pre post : List JVal),
    applyV (pre ++ (leavesV s).map f ++ post) bv (indexV s pre.length).1 = mergeV bv (mapV f s)
  | .leaf e, _, bv, pre, post => by
    simp [leavesV, indexV, applyV, mapV, mergeV, List.getD]
  | .node kvs, h, bv, pre, post => by
    simp only [leavesV, indexV, applyV, mapV, mergeV]
    congr 1
    exact applyLoop_eq_mergeO f kvs h (fieldsOf bv) pre post (fieldsOf bv) (fun _ _ => rfl)
theorem applyLoop_eq_mergeO (f : ε → JVal) : ∀ (kvs : List (String × OSpec ε)), WFO kvs →
    ∀ (base : Fields) (pre post : List JVal) (acc : Fields),
    (∀ k ∈ keysO kvs, JVal.lookup k acc = JVal.lookup k base) →
    applyLoop (pre ++ (leavesO kvs).map f ++ post) base (indexO kvs pre.length).1 acc
      = mergeO acc (mapO f kvs)
  | [], _, base, pre, post, acc, _ => by simp [indexO, applyLoop, mapO, mergeO]
  | (k, s) :: rest, h, base, pre, post, acc, hacc => by
    obtain ⟨hk, hs, hrest⟩ := h
    simp only [indexO, leavesO, applyLoop, mapO, mergeO, indexV_values]
    have e1 := applyV_eq_mergeV f s hs (JVal.lookup k base) pre ((leavesO rest).map f ++ post)
    have hkacc : JVal.lookup k acc = JVal.lookup k base := hacc k (by simp [keysO])
    simp only [List.map_append, List.append_assoc] at e1 ⊢
    rw [e1, hkacc]
    have e2 := applyLoop_eq_mergeO f rest hrest base (pre ++ (leavesV s).map f) post
      (JVal.insert k (mergeV (JVal.lookup k base) (mapV f s)) acc)
      (by
        intro k' hk'
        have hne : k' ≠ k := by intro e; subst e; exact hk hk'
        rw [lookup_insert_ne _ hne]
        exact hacc k' (List.mem_cons_of_mem k hk'))
    simp only [List.length_append, List.length_map, List.append_assoc] at e2
    exact e2
end

theorem specLookup_none_of_not_mem {k : String} : ∀ {kvs : List (String × OSpec ε)},
    k ∉ keysO kvs → specLookup k kvs = none := by
  intro kvs
  fun_induction specLookup k kvs with
  | case1 => exact fun _ => rfl
  | case2 s rest => exact fun h => absurd List.mem_cons_self h
  | case3 k' s rest _ ih => exact fun h => ih fun hm => h (List.mem_cons_of_mem _ hm)

theorem mergeO_lookup (k : String) : ∀ (kvs : List (String × OSpec JVal)), WFO kvs → ∀ (acc : Fields),
    JVal.lookup k (mergeO acc kvs) =
      match specLookup k kvs with
      | none => JVal.lookup k acc
      | some s => some (mergeV (JVal.lookup k acc) s)
  | [], _, acc => by simp [mergeO, specLookup]
  | (k', s) :: rest, h, acc => by
    obtain ⟨hk, _, hrest⟩ := h
    simp only [mergeO, specLookup]
    rw [mergeO_lookup k rest hrest]
    by_cases e : k' = k
    · subst e
      simp [specLookup_none_of_not_mem hk, lookup_insert_self]
    · simp only [e, if_false]
      rw [lookup_insert_ne _ (Ne.symm e)]

theorem mergeO_keys : ∀ (kvs : List (String × OSpec JVal)), WFO kvs → ∀ (acc : Fields),
    JVal.keys (mergeO acc kvs) = JVal.keys acc ++ (keysO kvs).filter (fun k => !(JVal.keys acc).contains k)
  | [], _, acc => by simp [mergeO, keysO]
  | (k, s) :: rest, h, acc => by
    obtain ⟨hk, _, hrest⟩ := h
    simp only [mergeO]
    -- `k` is inserted first: if it is new it goes to the end of `acc`, and the remaining keys are filtered
    -- against `acc` plus `k` — the same as against `acc`, because `k` is not among them (`hk`)
    rw [mergeO_keys rest hrest, keys_insert]
    by_cases hm : k ∈ JVal.keys acc
    · simp [hm, keysO]
    · simp only [hm, if_false, keysO, List.map_cons, List.filter_cons, List.contains_eq_mem,
        decide_false, Bool.not_false, if_true, List.append_assoc, List.cons_append, List.nil_append]
      congr 2
      apply List.filter_congr
      intro k' hk'
      have : k' ≠ k := by
        intro e; subst e; exact hk (by simpa [keysO] using hk')
      simp [this]

theorem hdo_iff : ∀ {ov : Fields}, HDO ov ↔ (JVal.keys ov).Nodup ∧ ∀ kv ∈ ov, HD kv.2
  | [] => by simp [HDO, keys_nil]
  | (k, v) :: rest => by
    rw [HDO, hdo_iff, nodup_keys_cons, List.forall_mem_cons, and_assoc, and_left_comm (a := HD v)]

theorem dovO_lookup (k : String) : ∀ (ov : Fields), (JVal.keys ov).Nodup → ∀ (acc : Fields),
    JVal.lookup k (dovO acc ov) =
      match JVal.lookup k ov with
      | none => JVal.lookup k acc
      | some o => some (dovV (JVal.lookup k acc) o)
  | [], _, acc => rfl
  | (k', o) :: rest, h, acc => by
    obtain ⟨hk, hrest⟩ := List.nodup_cons.mp h
    simp only [dovO, JVal.lookup]
    rw [dovO_lookup k rest hrest]
    by_cases e : k' = k
    · subst e
      simp [lookup_none_of_not_mem hk, lookup_insert_self]
    · simp only [e, if_false]
      rw [lookup_insert_ne _ (Ne.symm e)]

theorem dovO_fixed : ∀ (ov acc : Fields),
    (∀ k o, (k, o) ∈ ov → ∃ x, JVal.lookup k acc = some x ∧ dovV (some x) o = x) → dovO acc ov = acc
  | [], acc, _ => rfl
  | (k, o) :: rest, acc, h => by
    obtain ⟨x, hx, hfix⟩ := h k o (by simp)
    simp only [dovO]
    rw [hx, hfix, insert_of_lookup hx]
    exact dovO_fixed rest acc (fun k' o' hm => h k' o' (by simp [hm]))

/-- what idempotence needs of one overlay value: applying it again changes nothing, whether the first
    application merged it into what was there (first conjunct) or stored it as it is because there was
    no map to merge into (second) -/
def Idem (o : JVal) : Prop :=
  (∀ r, dovV (some (dovV r o)) o = dovV r o) ∧ dovV (some o) o = o

theorem dovO_self {ov : Fields} (hn : (JVal.keys ov).Nodup) (hm : ∀ kv ∈ ov, Idem kv.2) : dovO ov ov = ov :=
  dovO_fixed ov ov fun k o h => ⟨o, lookup_of_mem_nodup hn h, (hm (k, o) h).2⟩

theorem dovO_idem_of {ov : Fields} (hn : (JVal.keys ov).Nodup) (hm : ∀ kv ∈ ov, Idem kv.2) (acc : Fields) :
    dovO (dovO acc ov) ov = dovO acc ov := by
  apply dovO_fixed
  intro k o h
  refine ⟨dovV (JVal.lookup k acc) o, ?_, (hm (k, o) h).1 _⟩
  rw [dovO_lookup k ov hn, lookup_of_mem_nodup hn h]

theorem idem_obj {ov : Fields} (hn : (JVal.keys ov).Nodup) (hm : ∀ kv ∈ ov, Idem kv.2) : Idem (.obj ov) := by
  constructor
  · intro r
    match r with
    | some (.obj rkvs) => simp only [dovV]; rw [dovO_idem_of hn hm]
    | none | some .null | some (.bool _) | some (.int _) | some (.flt _) | some (.str _) | some (.arr _) =>
      simp only [dovV]; rw [dovO_self hn hm]
  · simp only [dovV]; rw [dovO_self hn hm]

theorem idem_of_hd : ∀ (o : JVal), HD o → Idem o :=
  JVal.induct (P := fun o => HD o → Idem o)
    (null := fun _ => ⟨fun _ => rfl, rfl⟩) (bool := fun _ _ => ⟨fun _ => rfl, rfl⟩)
    (int := fun _ _ => ⟨fun _ => rfl, rfl⟩) (flt := fun _ _ => ⟨fun _ => rfl, rfl⟩)
    (str := fun _ _ => ⟨fun _ => rfl, rfl⟩) (arr := fun _ _ _ => ⟨fun _ => rfl, rfl⟩)
    (obj := fun _ ih h => let ⟨hn, hv⟩ := hdo_iff.mp h; idem_obj hn fun kv hm => ih kv hm (hv kv hm))

theorem dovO_idem {ov : Fields} (hd : HDO ov) (acc : Fields) : dovO (dovO acc ov) ov = dovO acc ov :=
  JVal.obj.inj ((idem_of_hd (.obj ov) hd).1 (some (.obj acc)))

theorem forcedOverlay_hdo (a k n : String) (ns : Option String) : HDO (forcedOverlay a k n ns) := by
  cases ns <;> simp [forcedOverlay, HDO, HD, keys_cons, keys_nil]

theorem keysO_ofFields : ∀ (kvs : Fields), keysO (OSpec.ofFields kvs) = JVal.keys kvs
  | [] => rfl
  | (k, _) :: rest => congrArg (k :: ·) (keysO_ofFields rest)

mutual
theorem ofJVal_wf : ∀ (v : JVal), HD v → (OSpec.ofJVal v).WF
  | .obj [], _ => by simp [OSpec.ofJVal, OSpec.WF]
  | .obj ((k, v) :: rest), h => ofFields_wf ((k, v) :: rest) h
  | .null, _ | .bool _, _ | .int _, _ | .flt _, _ | .str _, _ | .arr _, _ => by simp [OSpec.ofJVal, OSpec.WF]
theorem ofFields_wf : ∀ (kvs : Fields), HDO kvs → WFO (OSpec.ofFields kvs)
  | [], _ => by simp [OSpec.ofFields, WFO]
  | (k, v) :: rest, h => by
    obtain ⟨hk, hv, hrest⟩ := h
    simp only [OSpec.ofFields, WFO]
    refine ⟨?_, ofJVal_wf v hv, ofFields_wf rest hrest⟩
    rw [keysO_ofFields]; exact hk
end

theorem applier_eq_mergeO (f : ε → JVal) (spec : List (String × OSpec ε)) (h : WFO spec) (base : Fields) :
    applier base (indexO spec 0).1 ((indexO spec 0).2.map f) = mergeO base (mapO f spec) := by
  have := applyLoop_eq_mergeO f spec h base [] [] base (fun _ _ => rfl)
  simpa [applier, indexO_values] using this

theorem evalOverlay_eq (ev : Env → ε → JVal) (env : Env) (base : Fields)
    (spec : List (String × OSpec ε)) (h : WFO spec) :
    evalOverlay ev env base spec = mergeO base (evalTree ev env base spec) := by
  simp only [evalOverlay, evalTree]
  exact applier_eq_mergeO _ spec h base

theorem stepApply_eq (ev : Env → ε → JVal) (env : Env) (cur : Fields) (s : Step ε) (h : WFO s.spec) :
    stepApply ev env cur s = mergeStep ev env cur s := by
  cases s with
  | inline sk spec => exact evalOverlay_eq ev env cur spec h
  | vfRef sk inputs vf =>
    simp only [stepApply, mergeStep, vfReturn, stepEnv, Step.spec, Option.getD_some]
    exact evalOverlay_eq ev _ cur vf.ret h

theorem overlaysLoop_eq (ev : Env → ε → JVal) (env : Env) : ∀ (steps : List (Step ε)),
    (∀ s ∈ steps, WFO s.spec) → ∀ (cur : Fields),
    overlaysLoop ev env steps cur = (active ev env steps).foldl (mergeStep ev env) cur := by
  intro steps h cur
  fun_induction overlaysLoop ev env steps cur with
  | case1 cur => rfl
  | case2 s rest cur hk ih =>
    -- skipped: the step is not among the active ones
    rw [active, List.filter_cons_of_neg (by simp [hk])]
    exact ih fun s' hm => h s' (List.mem_cons_of_mem _ hm)
  | case3 s rest cur hk ih =>
    rw [active, List.filter_cons_of_pos (by simpa using hk), List.foldl_cons,
      ← stepApply_eq ev env cur s (h s List.mem_cons_self)]
    exact ih fun s' hm => h s' (List.mem_cons_of_mem _ hm)

theorem skipped_eq (ev : Env → ε → JVal) (env : Env) (s : Step ε) :
    skipped ev env s = (skipDecision ev env s == some true) := by
  fun_cases skipped ev env s <;> simp [skipDecision, *]

/-- undecidable `skipIf`, or not skipped and its `inputs` fail -/
def stepFails (ev : Env → ε → JVal) (ok : Env → ε → Bool) (env : Env) (s : Step ε) : Bool :=
  match skipDecision ev env s with
  | none => true
  | some true => false
  | some false => !inputsOk ok env s

theorem stepFails_iff {ev : Env → ε → JVal} {ok : Env → ε → Bool} {env : Env} {s : Step ε} :
    stepFails ev ok env s = true ↔
      skipDecision ev env s = none ∨ (skipDecision ev env s = some false ∧ inputsOk ok env s = false) := by
  unfold stepFails
  cases skipDecision ev env s with
  | none => simp
  | some b => cases b <;> simp

theorem overlaysLoopF_eq (ev : Env → ε → JVal) (ok : Env → ε → Bool) (env : Env) :
    ∀ (steps : List (Step ε)) (cur : Fields),
    overlaysLoopF ev ok env steps cur =
      if steps.any (stepFails ev ok env) then none else some (overlaysLoop ev env steps cur)
  | [], _ => rfl
  | s :: rest, cur => by
    simp only [overlaysLoopF, overlaysLoop, skipped_eq, stepFails, List.any_cons, overlaysLoopF_eq ev ok env rest]
    cases skipDecision ev env s with
    | none => rfl
    | some b => cases b <;> cases inputsOk ok env s <;> rfl

theorem materialiseF_eq (ev : Env → ε → JVal) (ok : Env → ε → Bool) (env : Env) (template forced : Fields)
    (steps : List (Step ε)) :
    materialiseF ev ok env template forced steps =
      if steps.any (stepFails ev ok env) then none else some (materialise ev env template forced steps) := by
  simp only [materialiseF, materialise, overlaysLoopF_eq]
  cases steps with
  | nil => rfl
  | cons s rest => cases ((s :: rest).any (stepFails ev ok env)) <;> rfl

theorem inputsOk_true (env : Env) (s : Step ε) : inputsOk (fun _ _ => true) env s = true := by
  unfold inputsOk
  split <;> rfl

theorem overlaysLoopE_eq_F (ev : Env → ε → JVal) (env : Env) : ∀ (steps : List (Step ε)) (cur : Fields),
    overlaysLoopE ev env steps cur = overlaysLoopF ev (fun _ _ => true) env steps cur
  | [], _ => rfl
  | s :: rest, cur => by
    simp only [overlaysLoopE, overlaysLoopF, inputsOk_true, if_true, overlaysLoopE_eq_F ev env rest]

theorem materialiseE_eq_F (ev : Env → ε → JVal) (env : Env) (template forced : Fields) (steps : List (Step ε)) :
    materialiseE ev env template forced steps = materialiseF ev (fun _ _ => true) env template forced steps := by
  simp only [materialiseE, materialiseF, overlaysLoopE_eq_F]

theorem any_stepFails_congr (ev : Env → ε → JVal) (ok ok' : Env → ε → Bool) (env : Env) (steps : List (Step ε))
    (h : ∀ s ∈ steps, skipDecision ev env s = some false → inputsOk ok env s = inputsOk ok' env s) :
    steps.any (stepFails ev ok env) = steps.any (stepFails ev ok' env) := by
  rw [Bool.eq_iff_iff]
  simp only [List.any_eq_true, stepFails_iff]
  exact exists_congr fun s => and_congr_right fun hm => or_congr_right <| and_congr_right fun hd => by rw [h s hm hd]

theorem overlaysLoop_drop_skipped (ev : Env → ε → JVal) (env : Env) (s : Step ε) (hs : skipped ev env s = true)
    (post : List (Step ε)) : ∀ (pre : List (Step ε)) (cur : Fields),
    overlaysLoop ev env (pre ++ s :: post) cur = overlaysLoop ev env (pre ++ post) cur
  | [], cur => by simp [overlaysLoop, hs]
  | p :: pre, cur => by
    simp only [List.cons_append, overlaysLoop]
    split <;> exact overlaysLoop_drop_skipped ev env s hs post pre _

theorem materialise_drop_skipped (ev : Env → ε → JVal) (env : Env) (template forced : Fields)
    (pre post : List (Step ε)) (s : Step ε) (hs : skipped ev env s = true) (hf : HDO forced) :
    materialise ev env template forced (pre ++ s :: post) = materialise ev env template forced (pre ++ post) := by
  have h1 : (pre ++ s :: post).isEmpty = false := by cases pre <;> rfl
  simp only [materialise, h1, Bool.false_eq_true, if_false, overlaysLoop_drop_skipped ev env s hs post pre]
  split
  next he =>
    -- nothing is left: the forced overlay applied twice is the forced overlay applied once
    rw [List.isEmpty_iff.mp he]
    exact dovO_idem hf _
  next => rfl

theorem allAvailable_some {α : Type} : ∀ (l : List (Option α)) (xs : List α),
    allAvailable l = some xs → l = xs.map some
  | [], xs, h => by cases h; rfl
  | none :: _, _, h => by simp [allAvailable] at h
  | some a :: rest, xs, h => by
    simp only [allAvailable, Option.map_eq_some_iff] at h
    obtain ⟨ys, hy, rfl⟩ := h
    simp [allAvailable_some rest ys hy]

theorem allAvailable_none {α : Type} (l : List (Option α)) (h : none ∈ l) : allAvailable l = none := by
  cases ha : allAvailable l with
  | none => rfl
  | some xs => simp [allAvailable_some l xs ha] at h

mutual
theorem mergeV_static : ∀ (v : JVal), HD v → ∀ (b : Option JVal), (∀ kvs, b ≠ some (.obj kvs)) →
    mergeV b (OSpec.ofJVal v) = v
  | .obj ((k, x) :: rest), h, b, hb => by
    rw [OSpec.ofJVal, mergeV, fieldsOf_of_not_obj hb]
    exact congrArg JVal.obj (mergeO_static ((k, x) :: rest) h [] nofun)
  -- a written `{}` is a leaf (`case dict() if value:`), so it replaces what is there rather than merges
  | .obj [], _, _, _ => rfl
  | .null, _, _, _ => rfl
  | .bool _, _, _, _ => rfl
  | .int _, _, _, _ => rfl
  | .flt _, _, _, _ => rfl
  | .str _, _, _, _ => rfl
  | .arr _, _, _, _ => rfl
theorem mergeO_static : ∀ (kvs : Fields), HDO kvs → ∀ (acc : Fields), (∀ k ∈ JVal.keys kvs, k ∉ JVal.keys acc) →
    mergeO acc (OSpec.ofFields kvs) = acc ++ kvs
  | [], _, acc, _ => by simp [OSpec.ofFields, mergeO]
  | (k, v) :: rest, ⟨hk, hv, hr⟩, acc, hd => by
    obtain ⟨hka, hra⟩ := List.forall_mem_cons.mp hd
    -- after the first field the accumulator has one more key, which the remaining fields do not use
    have hd' : ∀ k' ∈ JVal.keys rest, k' ∉ JVal.keys (JVal.insert k v acc) := fun k' hk' hm => by
      rw [keys_insert, if_neg hka, List.mem_append, List.mem_singleton] at hm
      exact hm.elim (hra k' hk') fun e => hk (e ▸ hk')
    rw [OSpec.ofFields, mergeO, lookup_none_of_not_mem hka, mergeV_static v hv none nofun,
      mergeO_static rest hr _ hd', insert_of_not_mem hka, List.append_assoc, List.singleton_append]
end

end Koreo.Overlay
