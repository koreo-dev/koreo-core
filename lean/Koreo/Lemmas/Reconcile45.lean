/-
  C04 / C05: the writes of `Koreo/Reconcile45.lean` (`setAnnotation`, `setOwnerRefs`, `prepareForApi`) inverted,
  the last-applied text of a payload read back by `_extract_last_applied` — also after the payload was
  merge-patched into any live object —, and the pass functions (`passPresent`, `passAbsent`, `correct`) as one
  equation per branch.
-/
import Koreo.Reconcile45
import Koreo.Lemmas.Compare
namespace Koreo.R45
open Koreo Koreo.JVal Koreo.Compare

theorem nodup_nil : noDupB (.obj []) = true := rfl

theorem setAnnotation_some {k : String} {v : JVal} {S S' : List (String × JVal)} :
    setAnnotation k v S = some S' ↔ ∃ mkvs akvs, (lookup "metadata" S).getD (.obj []) = .obj mkvs ∧
      (lookup "annotations" mkvs).getD (.obj []) = .obj akvs ∧
      S' = JVal.insert "metadata" (.obj (JVal.insert "annotations" (.obj (JVal.insert k v akvs)) mkvs)) S := by
  constructor
  · fun_cases setAnnotation k v S
    -- the exit that does not raise: `metadata` and `annotations` are maps or absent
    case case1 mkvs hm akvs ha => exact fun h => ⟨mkvs, akvs, hm, ha, (Option.some.inj h).symm⟩
    all_goals exact nofun
  · rintro ⟨mkvs, akvs, h1, h2, rfl⟩
    simp only [setAnnotation, h1, h2]

theorem setOwnerRefs_some {r t x : JVal} :
    setOwnerRefs r t = some x ↔ ∃ kvs mkvs, t = .obj kvs ∧ lookup "metadata" kvs = some (.obj mkvs) ∧
      x = .obj (JVal.insert "metadata" (.obj (JVal.insert ownerReferences r mkvs)) kvs) := by
  constructor
  · fun_cases setOwnerRefs r t
    -- the exit that does not raise: a map with a `metadata` map
    case case1 kvs mkvs hm => exact fun h => ⟨kvs, mkvs, rfl, hm, (Option.some.inj h).symm⟩
    all_goals exact nofun
  · rintro ⟨kvs, mkvs, rfl, h1, rfl⟩
    simp only [setOwnerRefs, h1]

theorem ownerRefsFree_iff {t : JVal} :
    ownerRefsFree t = true ↔ ∃ kvs mkvs, t = .obj kvs ∧ lookup "metadata" kvs = some (.obj mkvs) ∧
      lookup ownerReferences mkvs = none := by
  constructor
  · fun_cases ownerRefsFree t
    -- a map with a `metadata` map; every other shape answers `false`
    case case1 kvs mkvs hm => exact fun h => ⟨kvs, mkvs, rfl, hm, Option.isNone_iff_eq_none.mp h⟩
    all_goals exact nofun
  · rintro ⟨kvs, mkvs, rfl, h1, h2⟩
    simp only [ownerRefsFree, h1, h2, Option.isNone_none]

theorem annFree_obj {tkvs : List (String × JVal)} (h : annFree (.obj tkvs) = true) {tv : JVal}
    (hl : lookup "metadata" tkvs = some tv) :
    ∃ tm, tv = .obj tm ∧ plainKey tkvs "metadata" = true ∧ ∀ tv2, lookup "annotations" tm = some tv2 →
      ∃ ta, tv2 = .obj ta ∧ plainKey tm "annotations" = true ∧ lookup lastAppliedAnnotation ta = none := by
  simp only [annFree, hl] at h
  cases tv with
  | obj tm =>
    rw [Bool.and_eq_true] at h
    refine ⟨tm, rfl, h.1, fun tv2 hl2 => ?_⟩
    have h2 := h.2
    simp only [hl2] at h2
    cases tv2 with
    | obj ta =>
      rw [Bool.and_eq_true, Option.isNone_iff_eq_none] at h2
      exact ⟨ta, rfl, h2.1, h2.2⟩
    | _ => contradiction
  | _ => contradiction

theorem annFree_getD {tkvs : List (String × JVal)} (h : annFree (.obj tkvs) = true) :
    ∃ tm ta, (lookup "metadata" tkvs).getD (.obj []) = .obj tm ∧
      (lookup "annotations" tm).getD (.obj []) = .obj ta := by
  cases hl : lookup "metadata" tkvs with
  | none => exact ⟨[], [], rfl, rfl⟩
  | some tv =>
    obtain ⟨tm, rfl, -, h2⟩ := annFree_obj h hl
    cases hl2 : lookup "annotations" tm with
    | none => exact ⟨tm, [], rfl, by rw [hl2]; rfl⟩
    | some tv2 => obtain ⟨ta, rfl, -⟩ := h2 tv2 hl2; exact ⟨tm, ta, rfl, by rw [hl2]; rfl⟩

/-- the body `_prepare_for_api` builds from the stripped map `kvs0` with its `metadata` and `annotations` maps -/
def annotated (s : String) (kvs0 mkvs0 akvs0 : List (String × JVal)) : JVal :=
  .obj (JVal.insert "metadata" (.obj (JVal.insert "annotations"
    (.obj (JVal.insert lastAppliedAnnotation (.str s) akvs0)) mkvs0)) kvs0)

theorem prepareForApi_some {c : Codec} {x body : JVal} :
    prepareForApi c x = some body ↔ ∃ kvs mkvs akvs, strip x = .obj kvs ∧
      (lookup "metadata" kvs).getD (.obj []) = .obj mkvs ∧ (lookup "annotations" mkvs).getD (.obj []) = .obj akvs ∧
      body = annotated (c.dumps (.obj kvs)) kvs mkvs akvs := by
  constructor
  · fun_cases prepareForApi c x
    -- the view strips to a map; anything else raises
    case case1 kvs hx =>
      intro h
      obtain ⟨S', hs, rfl⟩ := Option.map_eq_some_iff.mp h
      obtain ⟨mkvs, akvs, h1, h2, rfl⟩ := setAnnotation_some.mp hs
      exact ⟨kvs, mkvs, akvs, hx, h1, h2, rfl⟩
    case case2 => exact nofun
  · rintro ⟨kvs, mkvs, akvs, hx, h1, h2, rfl⟩
    simp only [prepareForApi, hx, setAnnotation_some.mpr ⟨mkvs, akvs, h1, h2, rfl⟩, Option.map_some, annotated]

theorem extract_of_lookups (c : Codec) {s : String} (hs : s ≠ "") {kvs m a : List (String × JVal)}
    (h1 : lookup "metadata" kvs = some (.obj m)) (h2 : lookup "annotations" m = some (.obj a))
    (h3 : lookup lastAppliedAnnotation a = some (.str s)) :
    extractLastApplied c (.obj kvs) = c.loads s := by
  have hne : (s != "") = true := by simpa using hs
  -- a map in which something is found is truthy
  have ne {k : String} {v : JVal} {l : List (String × JVal)} (h : lookup k l = some v) : l.isEmpty = false := by
    cases l with
    | nil => cases h
    | cons _ _ => rfl
  simp only [extractLastApplied, h1, h2, h3, truthy, ne h2, ne h3, hne, Bool.not_false, Bool.not_true,
    Bool.false_eq_true, ↓reduceIte]

theorem lookup_mergePatchO_insert (k : String) (Q : List (String × JVal)) {P : List (String × JVal)}
    (hP : (keys P).Nodup) (L : List (String × JVal)) :
    lookup k (mergePatchO L (JVal.insert k (.obj Q) P)) =
      some (.obj (mergePatchO (laObjKvs ((lookup k L).getD .null)) Q)) :=
  (lookup_mergePatchO_mem (pv := .obj Q) nofun _ (nodup_keys_insert _ _ hP) _ (lookup_insert_self ..)).trans
    (congrArg some (mergePatch_obj ..))

theorem extract_after_patch (c : Codec) (s : String) (hs : s ≠ "") (kvs0 mkvs0 akvs0 : List (String × JVal))
    (h0 : (keys kvs0).Nodup) (h1 : (keys mkvs0).Nodup) (h2 : (keys akvs0).Nodup) (live : JVal) :
    extractLastApplied c (mergePatch live (annotated s kvs0 mkvs0 akvs0)) = c.loads s := by
  rw [annotated, mergePatch_obj]
  -- down the path the patch writes: two maps, merged into what the live object has there, then the text itself
  exact extract_of_lookups c hs (lookup_mergePatchO_insert "metadata" _ h0 _)
    (lookup_mergePatchO_insert "annotations" _ h1 _)
    (lookup_mergePatchO_mem (pv := .str s) nofun _ (nodup_keys_insert _ _ h2) _ (lookup_insert_self ..))

theorem passPresent_eq {c : Cfg} {t live la : JVal} {fix : OwnerFix} (ho : ownerFixOf c live = some fix)
    (hla : extractLastApplied c.codec live = some la) :
    passPresent c t live =
      match validateMatch t live la false with
      | .ok => if fix.isNone then [unchanged live] else [correct c fix t live]
      | .bad d r => (if d then [correct c fix t live] else []) ++ (if r then [raisedAt live] else []) := by
  simp only [passPresent, ho, hla]; rfl

theorem passPresent_ok {c : Cfg} {t live la : JVal} {fix : OwnerFix} (ho : ownerFixOf c live = some fix)
    (hla : extractLastApplied c.codec live = some la) (hv : validateMatch t live la false = .ok) :
    passPresent c t live = if fix.isNone then [unchanged live] else [correct c fix t live] := by
  rw [passPresent_eq ho hla, hv]

theorem passPresent_differ {c : Cfg} {t live la : JVal} {fix : OwnerFix} (ho : ownerFixOf c live = some fix)
    (hla : extractLastApplied c.codec live = some la) (hv : validateMatch t live la false = .differ) :
    passPresent c t live = [correct c fix t live] := by
  rw [passPresent_eq ho hla, hv]; rfl

theorem mem_passAbsent {c : Cfg} {r : PassResult} (h : r ∈ passAbsent c) :
    r = ⟨none, .retry (.int loadRetryDelay), []⟩ ∨ r = ⟨none, .raised, []⟩ ∨
      ∃ body, r = ⟨some body, .retry c.createDelay, [.post body]⟩ := by
  revert h
  fun_cases passAbsent c
  -- in order: create disabled, `_prepare_for_api` raised, the POST
  · exact fun h => .inl (List.mem_singleton.mp h)
  · exact fun h => .inr (.inl (List.mem_singleton.mp h))
  · exact fun h => .inr (.inr ⟨_, List.mem_singleton.mp h⟩)

theorem passAbsent_disabled {c : Cfg} (he : c.createEnabled = false) :
    passAbsent c = [⟨none, .retry (.int loadRetryDelay), []⟩] := by
  simp only [passAbsent, he, Bool.not_false, ↓reduceIte]

theorem passAbsent_create {c : Cfg} {body : JVal} (he : c.createEnabled = true)
    (hb : prepareForApi c.codec c.createView = some body) :
    passAbsent c = [⟨some body, .retry c.createDelay, [.post body]⟩] := by
  simp only [passAbsent, he, Bool.not_true, Bool.false_eq_true, ↓reduceIte, hb]

theorem mem_passPresent {c : Cfg} {t live : JVal} {r : PassResult} (h : r ∈ passPresent c t live) :
    r = raisedAt live ∨ r = unchanged live ∨ ∃ fix, r = correct c fix t live := by
  revert h
  fun_cases passPresent c t live
  -- the comparison matched: nothing to do, or the owner references only
  case case3 => exact fun h => .inr (.inl (List.mem_singleton.mp h))
  case case4 => exact fun h => .inr (.inr ⟨_, List.mem_singleton.mp h⟩)
  -- it answered `bad d x`: the correction where it may differ, an exception where it may raise
  case case5 d x _ =>
    intro h
    rcases List.mem_append.mp h with h | h
    · cases d <;> simp only [↓reduceIte, List.mem_singleton, Bool.false_eq_true, List.not_mem_nil] at h
      exact .inr (.inr ⟨_, h⟩)
    · cases x <;> simp only [↓reduceIte, List.mem_singleton, Bool.false_eq_true, List.not_mem_nil] at h
      exact .inl h
  -- the owner check or the annotation raised
  all_goals exact fun h => .inl (List.mem_singleton.mp h)

theorem correct_patch {c : Cfg} {t body d : JVal} (live : JVal) (hp : c.policy = .patch d)
    (hf : ownerRefsFree t = true) (hb : prepareForApi c.codec t = some body) :
    correct c .none t live = ⟨some (mergePatch live body), .retry d, [.patch body]⟩ := by
  simp only [correct, hp, dropOwnerRefs, hf, ↓reduceIte, hb]

theorem correct_patch_refs {c : Cfg} {t r x body d : JVal} (live : JVal) (hp : c.policy = .patch d)
    (hx : setOwnerRefs r t = some x) (hb : prepareForApi c.codec x = some body) :
    correct c (.refs r) t live = ⟨some (mergePatch live body), .retry d, [.patch body]⟩ := by
  simp only [correct, hp, hx, hb]

theorem correct_recreate {c : Cfg} {d : JVal} (fix : OwnerFix) (t live : JVal) (hp : c.policy = .recreate d) :
    correct c fix t live = ⟨none, .retry d, [.delete]⟩ := by
  simp only [correct, hp]

theorem correct_never {c : Cfg} (fix : OwnerFix) (t live : JVal) (hp : c.policy = .never) :
    correct c fix t live = unchanged live := by
  simp only [correct, hp]

theorem correct_mutation {c : Cfg} {fix : OwnerFix} {t live : JVal}
    (h : (correct c fix t live).reqs ≠ [] ∨ (correct c fix t live).cluster ≠ some live) :
    ∃ d, (c.policy = .patch d ∨ c.policy = .recreate d) ∧ (correct c fix t live).outcome = .retry d := by
  revert h
  fun_cases correct c fix t live
  -- the DELETE of `recreate` and the PATCH of `patch`; every other exit leaves the cluster alone
  case case2 => exact fun _ => ⟨_, .inr ‹c.policy = _›, rfl⟩
  case case6 => exact fun _ => ⟨_, .inl ‹c.policy = _›, rfl⟩
  all_goals simp [unchanged, raisedAt]

end Koreo.R45
