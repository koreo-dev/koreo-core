/-
  C04 / C05: the payload — the target without its directives — against its own target.  It meets the
  target with itself as last-applied tree and is a last-applied tree of the target's shape (`strip_self`, one
  induction for both; `meets_strip_self`, `laOk_strip_self` are its halves), and whatever meets the target
  still does once it has been merge-patched into any live object (`meets_mergePatch`).  With them what
  `strip` keeps: distinct keys at every level (`noDupB_strip`; mind the namespace: the block is about `Compare.noDupB` and
  `Koreo.strip`, its names are `Koreo.R45.…`).
-/
import Koreo.Lemmas.Compare

namespace Koreo.Compare
open Koreo Koreo.JVal

theorem strip_scalar (v : JVal) (h : isScalar v = true) : strip v = v := by
  cases v with
  | arr _ | obj _ => contradiction
  | _ => rfl

theorem allObj_stripL (xs : List JVal) : allObj (stripL xs) = allObj xs := by
  induction xs with
  | nil => rfl
  | cons x xs ih => cases x <;> simp [stripL, strip, allObj, ih]

theorem laMembers_strip {tms : List JVal} (h : allObj tms = true) : laMembers (strip (.arr tms)) = stripL tms := by
  simp [strip, laMembers, allObj_stripL, h]

theorem stripL_scalars (xs : List JVal) (h : xs.all isScalar = true) : stripL xs = xs := by
  rw [stripL_eq_map]
  exact (List.map_congr_left fun x hx => strip_scalar x (List.all_eq_true.mp h x hx)).trans (List.map_id xs)

theorem allObj_mem (xs : List JVal) (hao : allObj xs = true) (x : JVal) (hx : x ∈ xs) : ∃ kvs, x = .obj kvs := by
  revert hao
  fun_induction allObj xs with
  | case1 => cases hx
  | case2 kvs rest ih => exact fun hao => (List.mem_cons.mp hx).elim (fun e => ⟨_, e⟩) (ih · hao)   -- a map first
  | case3 => exact nofun                                                                          -- anything else first

theorem keyPart_strip (f : JVal) (hf : fieldOk f = true) (mkvs : List (String × JVal))
    (hs : ∀ s, f = .str s → isScalar ((lookup s mkvs).getD .null) = true) :
    keyPart f (stripO mkvs) = keyPart f mkvs := by
  cases f with
  | str s =>
    have hd : isDirective s = false := by simpa [fieldOk] using hf
    simp only [keyPart, lookup_stripO hd]
    have := hs s rfl
    cases hl : lookup s mkvs with
    | none => rfl
    | some v => rw [hl] at this; simp only [Option.map_some, Option.getD_some] at this ⊢; rw [strip_scalar v this]
  | _ => contradiction

theorem objKey_strip (fields : List JVal) (hf : fields.all fieldOk = true) (mkvs : List (String × JVal))
    (hs : keyValsScalar fields (.obj mkvs) = true) : objKey fields (stripO mkvs) = objKey fields mkvs := by
  induction fields with
  | nil => rfl
  | cons f fs ih =>
    rw [List.all_cons, Bool.and_eq_true] at hf
    simp only [keyValsScalar, List.all_cons, Bool.and_eq_true] at hs
    have ih := ih hf.2 (by simpa [keyValsScalar] using hs.2)
    have hp := keyPart_strip f hf.1 mkvs (by intro s e; subst e; exact hs.1)
    rw [objKey.eq_2, objKey.eq_2, hp, ih]

theorem memberKey_strip (fields : List JVal) (hf : fields.all fieldOk = true) (m : JVal)
    (hs : keyValsScalar fields m = true) : memberKey fields (strip m) = memberKey fields m := by
  cases m with
  | obj mkvs =>
    simp only [strip, memberKey]
    exact objKey_strip fields hf mkvs hs
  | _ => rfl

theorem key_unique (fields : List JVal) : ∀ (tms : List JVal), keysDistinct fields tms = true →
    ∀ a b k, a ∈ tms → b ∈ tms → memberKey fields a = some k → memberKey fields b = some k → a = b
  | m :: rest, hd, a, b, k, ha, hb, hka, hkb => by
    simp only [keysDistinct, Bool.and_eq_true] at hd
    have hno : ∀ x ∈ rest, memberKey fields m = some k → memberKey fields x = some k → False := by
      intro x hx hm hxk
      have hd1 := hd.1
      rw [hm] at hd1
      simp [(hasKey_iff fields k rest).mpr ⟨x, hx, hxk⟩] at hd1
    rcases List.mem_cons.mp ha with rfl | ha' <;> rcases List.mem_cons.mp hb with rfl | hb'
    · rfl
    · exact (hno b hb' hka hkb).elim
    · exact (hno a ha' hkb hka).elim
    · exact key_unique fields rest hd.2 a b k ha' hb' hka hkb

theorem stripL_member {fields all : List JVal} {mkvs : List (String × JVal)} {key : String}
    (hfo : fields.all fieldOk = true) (hdist : keysDistinct fields all = true)
    (hsc : all.all (keyValsScalar fields) = true) (hmem : .obj mkvs ∈ all) (hkey : objKey fields mkvs = some key) :
    hasKey fields key (stripL all) = true ∧ laMember fields key (stripL all) = strip (.obj mkvs) ∧
      ∀ l ∈ stripL all, memberKey fields l = some key → l = strip (.obj mkvs) := by
  have hstripKey : ∀ x ∈ all, memberKey fields (strip x) = memberKey fields x := fun x hx =>
    memberKey_strip fields hfo x (List.all_eq_true.mp hsc x hx)
  have honly : ∀ l ∈ stripL all, memberKey fields l = some key → l = strip (.obj mkvs) := by
    intro l hl hk
    obtain ⟨x, hx, rfl⟩ := mem_stripL.mp hl
    rw [hstripKey x hx] at hk
    rw [key_unique fields all hdist x (.obj mkvs) key hx hmem hk hkey]
  have hhas : hasKey fields key (stripL all) = true :=
    (hasKey_iff fields key _).mpr ⟨_, mem_stripL.mpr ⟨_, hmem, rfl⟩, by rw [hstripKey _ hmem]; exact hkey⟩
  obtain ⟨h1, h2⟩ := laMember_spec hhas
  exact ⟨hhas, honly _ h1 h2, honly⟩

/- A conjunction, proved in one traversal: both facts about the stripped target have the same hypotheses and open
   a well-formed binding the same way.  In the map and keyed-member loops the live side stays the whole stripped map /
   list (`S`, `stripL all`) while the recursion runs down a suffix (`tkvs`, `tms`) of the target's bindings /
   members; `hsub` says that what is left of the target still belongs to what was stripped. -/
mutual
theorem strip_self (t : JVal) (hw : wfB t = true) (hn : noDupB t = true) :
    meetsB .full t (strip t) (strip t) = true ∧ laOkB t (strip t) = true := by
  match t with
  | .obj tkvs =>
    rw [wfB_obj] at hw
    rw [noDupB_obj] at hn
    have h := stripO_self (specDirs tkvs) (stripO tkvs) tkvs (specMap_strs _)
      (fun _ _ => lookup_stripO_of_mem hn.1) hw.2 hn.2
    rw [strip_obj, laOkB.eq_1, Bool.and_eq_true]
    exact ⟨meetsB_obj_iff.mpr ⟨_, rfl, rfl, h.1⟩, rfl, h.2⟩
  | .arr txs =>
    rw [wfB_arr] at hw
    rw [noDupB_arr] at hn
    have h := stripL_self txs hw hn
    rw [strip_arr, laOkB.eq_2, Bool.and_eq_true]
    exact ⟨meetsB_arr_iff.mpr ⟨_, rfl, rfl, h.1⟩, rfl, h.2⟩
  | .null | .bool _ | .int _ | .flt _ | .str _ =>
    rw [meetsB_scalar rfl, laOkB.eq_def]; exact ⟨scalarEq_refl rfl, rfl⟩
termination_by structural t
theorem stripO_self (d : Dirs) (S tkvs : List (String × JVal))
    (hd : ∀ k f, fieldsFor k d.asMap = some f → f.all isStr = true)
    (hsub : ∀ k tv, (k, tv) ∈ tkvs → isDirective k = false → lookup k S = some (strip tv))
    (hw : wfO d tkvs = true) (hn : noDupO tkvs = true) :
    meetsO .full d S S tkvs = true ∧ laOkO d S tkvs = true := by
  match tkvs with
  | [] => rw [meetsO.eq_1, laOkO.eq_1]; exact ⟨rfl, rfl⟩
  | (k, tv) :: rest =>
    obtain ⟨hkd, hwv, hwr⟩ := wfO_cons.mp hw
    rw [noDupO_cons] at hn
    have ih := stripO_self d S rest hd (fun k' tv' hm => hsub k' tv' (List.mem_cons_of_mem _ hm)) hwr hn.2
    -- what the binding asks of `S`, in both readings, once it is not a directive key
    suffices h : isDirective k = false →
        meetsVal .full d k tv (strip tv) (strip tv) = true ∧ laOkVal d k tv (strip tv) = true by
      refine ⟨meetsO_cons_iff.mpr ⟨fun hc => ?_, ih.1⟩, laOkO_cons.mpr ⟨fun hs => ?_, ih.2⟩⟩
      · have hdir := compared_full.mp hc
        have hl := hsub k tv List.mem_cons_self hdir
        rw [laVal_of_lookup hl]
        exact ⟨strip tv, cmpValue_self d hl, (h hdir).1⟩
      · have hdir := isDirective_of_not_skipped hs
        rw [laVal_of_lookup (hsub k tv List.mem_cons_self hdir)]
        exact (h hdir).2
    intro hdir
    replace hkd := hkd hdir
    match hf : fieldsFor k d.asMap with
    | none =>
      rw [meetsVal_plain hf, laOkVal_plain hf]
      refine ⟨?_, (strip_self tv hwv hn.1).2⟩
      split
      next hset =>
        obtain ⟨txs, rfl, hsc⟩ := keyDirOk_set hf hset hkd
        rw [strip_arr, stripL_scalars txs hsc]
        exact setEqSpec_refl hsc
      next => exact (strip_self tv hwv hn.1).1
    | some fields =>
      cases tv with
      | arr tms =>
        obtain ⟨hto, hdist, hfo, hsc⟩ := keyDirOk_keyed hf hkd
        rw [wfB_arr] at hwv
        rw [noDupB_arr] at hn
        have h := stripK_self fields (hd k fields hf) hfo tms hto hdist hsc tms (fun _ h => h) hwv hn.1
        rw [meetsVal_keyed hf, laOkVal_keyed hf, laMembers_strip hto]
        exact ⟨⟨_, rfl, (allObj_stripL tms).trans hto, h.1⟩, h.2⟩
      | _ => simp [keyDirOk, hf] at hkd
termination_by structural tkvs
theorem stripL_self (txs : List JVal) (hw : wfL txs = true) (hn : noDupL txs = true) :
    meetsL .full txs (stripL txs) (stripL txs) = true ∧ laOkL txs (stripL txs) = true := by
  match txs with
  | [] => rw [stripL, meetsL.eq_1, laOkL.eq_1]; exact ⟨rfl, rfl⟩
  | t :: ts =>
    rw [wfL_cons] at hw
    rw [noDupL_cons] at hn
    have h := strip_self t hw.1 hn.1
    have ih := stripL_self ts hw.2 hn.2
    rw [stripL_cons, meetsL.eq_2, laOkL.eq_2, Bool.and_eq_true, Bool.and_eq_true]
    exact ⟨⟨h.1, ih.1⟩, h.2, ih.2⟩
termination_by structural txs
theorem stripK_self (fields : List JVal) (hf : fields.all isStr = true) (hfo : fields.all fieldOk = true)
    (all : List JVal) (hao : allObj all = true) (hdist : keysDistinct fields all = true)
    (hsc : all.all (keyValsScalar fields) = true)
    (tms : List JVal) (hsub : ∀ tm ∈ tms, tm ∈ all) (hw : wfL tms = true) (hn : noDupL tms = true) :
    meetsK .full fields (stripL all) (stripL all) tms = true ∧ laOkK fields (stripL all) tms = true := by
  match tms with
  | [] => rw [meetsK.eq_1, laOkK.eq_1]; exact ⟨rfl, rfl⟩
  | tm :: rest =>
    rw [wfL_cons] at hw
    rw [noDupL_cons] at hn
    have ih := stripK_self fields hf hfo all hao hdist hsc rest
      (fun x hx => hsub x (List.mem_cons_of_mem _ hx)) hw.2 hn.2
    have hmem := hsub tm List.mem_cons_self
    cases tm with
    | obj mkvs =>
      obtain ⟨key, hkey⟩ := objKey_isSome fields hf mkvs
      obtain ⟨hhas, hlam, honly⟩ := stripL_member hfo hdist hsc hmem hkey
      have h := strip_self (.obj mkvs) hw.1 hn.1
      refine ⟨(meetsK_cons_full hkey).mpr ⟨⟨hhas, fun l hl hk => ?_⟩, ih.1⟩, ?_⟩
      · rw [honly l hl hk, hlam]; exact h.1
      · rw [laOkK.eq_2, Bool.and_eq_true]
        refine ⟨?_, ih.2⟩
        simp only [hkey, hlam]
        exact h.2
    | _ => obtain ⟨_, e⟩ := allObj_mem all hao _ hmem; cases e
termination_by structural tms
end

theorem meets_strip_self (t : JVal) (hw : wfB t = true) (hn : noDupB t = true) :
    meetsB .full t (strip t) (strip t) = true :=
  (strip_self t hw hn).1

theorem laOk_strip_self (t : JVal) (hw : wfB t = true) (hn : noDupB t = true) : laOkB t (strip t) = true :=
  (strip_self t hw hn).2

theorem meetsL_strip_self (txs : List JVal) (hw : wfL txs = true) (hn : noDupL txs = true) :
    meetsL .full txs (stripL txs) (laArrItems (.arr (stripL txs))) = true :=
  (stripL_self txs hw hn).1

theorem meetsK_strip_self (fields : List JVal) (hf : fields.all isStr = true) (hfo : fields.all fieldOk = true)
    (all : List JVal) (hao : allObj all = true) (hdist : keysDistinct fields all = true)
    (hsc : all.all (keyValsScalar fields) = true)
    (tms : List JVal) (hsub : ∀ tm ∈ tms, tm ∈ all) (hw : wfL tms = true) (hn : noDupL tms = true) :
    meetsK .full fields (stripL all) (stripL all) tms = true :=
  (stripK_self fields hf hfo all hao hdist hsc tms hsub hw hn).1

theorem laOkO_strip_self (d : Dirs) (all tkvs : List (String × JVal))
    (hd : ∀ k f, fieldsFor k d.asMap = some f → f.all isStr = true)
    (hsub : ∀ k tv, (k, tv) ∈ tkvs → isDirective k = false → lookup k (stripO all) = some (strip tv))
    (hw : wfO d tkvs = true) (hn : noDupO tkvs = true) :
    laOkO d (laObjKvs (.obj (stripO all))) tkvs = true :=
  (stripO_self d (stripO all) tkvs hd hsub hw hn).2

theorem laOkL_strip_self (txs : List JVal) (hw : wfL txs = true) (hn : noDupL txs = true) :
    laOkL txs (laArrItems (.arr (stripL txs))) = true :=
  (stripL_self txs hw hn).2

theorem laOkK_strip_self (fields : List JVal) (hf : fields.all isStr = true) (hfo : fields.all fieldOk = true)
    (all : List JVal) (hao : allObj all = true) (hdist : keysDistinct fields all = true)
    (hsc : all.all (keyValsScalar fields) = true)
    (tms : List JVal) (hsub : ∀ tm ∈ tms, tm ∈ all) (hw : wfL tms = true) (hn : noDupL tms = true) :
    laOkK fields (stripL all) tms = true :=
  (stripK_self fields hf hfo all hao hdist hsc tms hsub hw hn).2

theorem meets_null_right (m : Mode) (t la : JVal) (h : meetsB m t .null la = true) : t = .null := by
  cases t with
  | null => rfl
  | _ => contradiction

mutual
theorem meets_mergePatch (t p la live : JVal) (hn : noNullsB t = true) (hp : noDupB p = true)
    (h : meetsB .full t p la = true) : meetsB .full t (mergePatch live p) la = true := by
  match t with
  | .obj tkvs =>
    obtain ⟨pkvs, rfl, hla, h⟩ := meetsB_obj_iff.mp h
    rw [noDupB_obj] at hp
    rw [noNullsB.eq_3] at hn
    rw [mergePatch_obj]
    exact meetsB_obj_iff.mpr ⟨_, rfl, hla, meetsO_mergePatch (specDirs tkvs) pkvs _ (laObjKvs la) tkvs hn (keysNoDup_iff.mpr hp.1) hp.2 h⟩
  | .arr txs =>
    obtain ⟨pxs, rfl, -⟩ := meetsB_arr_iff.mp h
    -- a list in the patch replaces whatever was there
    exact h
  | .null | .bool _ | .int _ | .flt _ | .str _ =>
    rw [meetsB_scalar rfl] at h ⊢
    -- a patch that is `scalarEq` to a scalar is no map, so it replaces
    have hp : isObj p = false := by
      cases p with
      | obj _ => cases h
      | _ => rfl
    rwa [mergePatch_nonobj _ _ hp]
termination_by structural t
theorem meetsO_mergePatch (d : Dirs) (pkvs lkvs lakvs : List (String × JVal)) (tkvs : List (String × JVal))
    (hn : noNullsO tkvs = true) (hnd : keysNoDup pkvs = true) (hp : noDupO pkvs = true)
    (h : meetsO .full d pkvs lakvs tkvs = true) :
    meetsO .full d (mergePatchO lkvs pkvs) lakvs tkvs = true := by
  match tkvs with
  | [] => rw [meetsO.eq_1]
  | (k, tv) :: rest =>
    rw [noNullsO.eq_2, Bool.and_eq_true] at hn
    obtain ⟨hk, hrest⟩ := meetsO_cons_iff.mp h
    refine meetsO_cons_iff.mpr ⟨fun hc => ?_, meetsO_mergePatch d pkvs lkvs lakvs rest hn.2 hnd hp hrest⟩
    obtain ⟨pv, hcv, hv⟩ := hk hc
    by_cases hla : d.lastApplied.contains k = true
    · -- compared with the last-applied value: the live object is not consulted
      rw [cmpValue_lastApplied hla] at hcv ⊢
      exact ⟨pv, hcv, hv⟩
    · rw [cmpValue_live (Bool.not_eq_true _ ▸ hla)] at hcv ⊢
      -- a `null` in the patch would have to meet a `null` in the target
      have hne : pv ≠ .null := by
        rintro rfl
        cases meets_null_right _ _ _ ((meetsVal_nonarr (Or.inr rfl)).mp hv).2
        cases hn.1
      rw [lookup_mergePatchO_mem hne pkvs (keysNoDup_iff.mp hnd) lkvs hcv]
      refine ⟨_, rfl, ?_⟩
      cases pv with
      | obj ppkvs =>
        -- only a plainly compared map can meet a map; descend
        rw [meetsVal_nonarr (Or.inr rfl)] at hv
        rw [mergePatch_obj, meetsVal_nonarr (Or.inr rfl), ← mergePatch_obj]
        exact ⟨hv.1, meets_mergePatch tv _ _ _ hn.1 (noDupO_iff.mp hp _ (lookup_mem hcv)) hv.2⟩
      | _ => exact hv
termination_by structural tkvs
end

end Koreo.Compare

namespace Koreo.R45
open Koreo Koreo.JVal Koreo.Compare

mutual
theorem noDupB_strip (t : JVal) (h : noDupB t = true) : noDupB (strip t) = true := by
  match t with
  | .obj kvs =>
    rw [noDupB_obj] at h
    rw [strip_obj, noDupB_obj]
    exact ⟨nodup_keys_stripO h.1, noDupO_stripO kvs h.2⟩
  | .arr xs => rw [noDupB_arr] at h; rw [strip_arr, noDupB_arr]; exact noDupL_stripL xs h
  | .null | .bool _ | .int _ | .flt _ | .str _ => rw [strip.eq_def]; exact h
termination_by structural t
theorem noDupO_stripO (kvs : List (String × JVal)) (h : noDupO kvs = true) : noDupO (stripO kvs) = true := by
  match kvs with
  | [] => rfl
  | (k, v) :: rest =>
    rw [noDupO_cons] at h
    rw [stripO_cons]
    split
    · exact noDupO_stripO rest h.2
    · rw [noDupO_cons]; exact ⟨noDupB_strip v h.1, noDupO_stripO rest h.2⟩
termination_by structural kvs
theorem noDupL_stripL (xs : List JVal) (h : noDupL xs = true) : noDupL (stripL xs) = true := by
  match xs with
  | [] => rfl
  | x :: rest =>
    rw [noDupL_cons] at h
    rw [stripL_cons, noDupL_cons]
    exact ⟨noDupB_strip x h.1, noDupL_stripL rest h.2⟩
termination_by structural xs
end

end Koreo.R45
