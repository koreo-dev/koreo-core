/-
  C04 / C05: the views that meet the target.  `_prepare_for_api` is handed the target itself, the target
  with a create overlay merged in, or the target with owner references written.  Each of them, stripped,
  meets the target with itself as last-applied tree: an overlay that does not contradict the target keeps
  that true of whatever view it is merged into, and the owner-reference write is such an overlay.  So the
  body built from a view meets the target when it is POSTed or merge-patched into any live object, and its
  annotation reads back as the stripped view; the annotation write, which changes the live side only, is
  followed key by key down `metadata.annotations`.  Last the owner-reference branch of a pass: what
  `ownerFixOf` decides and what a patch does to the live `metadata.ownerReferences`.
-/
import Koreo.CreateOverlay
import Koreo.Lemmas.Overlay
import Koreo.Lemmas.ComparePayload
import Koreo.Lemmas.Reconcile45
namespace Koreo.R45
open Koreo Koreo.JVal Koreo.Compare Koreo.Overlay

theorem lookup_none_not_mem : ∀ (kvs : List (String × JVal)) (k : String) (v : JVal),
    lookup k kvs = none → (k, v) ∉ kvs := by
  intro kvs k v hl hm
  have := lookup_isSome_of_mem hm
  rw [hl] at this; cases this

theorem keyMeets_plain_iff {tkvs L LA : List (String × JVal)} {k : String} {tv : JVal} (hd : isDirective k = false)
    (hp : plainKey tkvs k = true) :
    KeyMeets .full (specDirs tkvs) L LA k tv ↔
      ∃ cv, lookup k L = some cv ∧ meetsB .full tv cv (laVal LA k) = true := by
  simp only [plainKey, Bool.and_eq_true, Bool.not_eq_true', Option.isNone_iff_eq_none] at hp
  obtain ⟨⟨hf, hs⟩, hla⟩ := hp
  simp only [KeyMeets, compared_full.mpr hd, true_imp_iff, cmpValue_live hla, meetsVal_plain hf, hs, Bool.false_and,
    Bool.false_eq_true, ↓reduceIte]

/-- `x` is written under `k0` on the live side.  Where the target specifies `k0` at all it has a plainly compared
    map there, and `x` meets that map if what it replaces did (an absent key read as `{}`, as `setAnnotation` does). -/
theorem write_live_at (tkvs S : List (String × JVal)) (la : JVal) (k0 : String) (x : JVal)
    (h : meetsB .full (.obj tkvs) (.obj S) la = true) (hn : noDupB (.obj tkvs) = true)
    (ht : ∀ tv, lookup k0 tkvs = some tv → ∃ tm, tv = .obj tm ∧ plainKey tkvs k0 = true ∧
      ∀ la1, noDupB (.obj tm) = true → meetsB .full (.obj tm) ((lookup k0 S).getD (.obj [])) la1 = true →
        meetsB .full (.obj tm) x la1 = true) :
    meetsB .full (.obj tkvs) (.obj (JVal.insert k0 x S)) la = true := by
  refine meets_obj_change h id ?_
  rintro ⟨k, tv⟩ hkv hold
  by_cases hk : k = k0
  · subst hk
    cases hd : isDirective k
    · have hl := lookup_of_mem_nodup (noDupB_obj.mp hn).1 hkv
      obtain ⟨tm, rfl, hp, hstep⟩ := ht tv hl
      obtain ⟨cv, hcv, hm⟩ := (keyMeets_plain_iff hd hp).mp hold
      exact (keyMeets_plain_iff hd hp).mpr
        ⟨x, lookup_insert_self .., hstep _ (noDupB_of_lookup hn hl) (by rw [hcv]; exact hm)⟩
    · exact KeyMeets.of_directive hd
  · exact (KeyMeets.congr (lookup_insert_ne x hk S) rfl).mpr hold

theorem ann_write (s : String) (tkvs S mkvs akvs : List (String × JVal)) (la : JVal)
    (h : meetsB .full (.obj tkvs) (.obj S) la = true) (hn : noDupB (.obj tkvs) = true)
    (ha : annFree (.obj tkvs) = true) (hmS : (lookup "metadata" S).getD (.obj []) = .obj mkvs)
    (haS : (lookup "annotations" mkvs).getD (.obj []) = .obj akvs) :
    meetsB .full (.obj tkvs) (annotated s S mkvs akvs) la = true := by
  refine write_live_at tkvs S la "metadata" _ h hn fun tv hl => ?_
  obtain ⟨tm, rfl, hp, ha2⟩ := annFree_obj ha hl
  refine ⟨tm, rfl, hp, fun la1 hnm hm1 =>
    write_live_at tm mkvs la1 "annotations" _ (hmS ▸ hm1) hnm fun tv2 hl2 => ?_⟩
  obtain ⟨ta, rfl, hp2, hno⟩ := ha2 tv2 hl2
  refine ⟨ta, rfl, hp2, fun la2 hna hm2 => ?_⟩
  exact write_live_at ta akvs la2 lastAppliedAnnotation _ (haS ▸ hm2) hna fun tv3 hl3 => by rw [hno] at hl3; cases hl3

theorem ncO_lookup (tkvs : List (String × JVal)) (k : String) (tv : JVal) (hk : isDirective k = false)
    (hl : lookup k tkvs = some tv) (kvs : List (String × OSpec JVal)) (s : OSpec JVal)
    (hn : ncO tkvs kvs = true) (hs : specLookup k kvs = some s) : ncV tv s = true := by
  fun_induction specLookup k kvs with
  | case1 => cases hs
  | case2 =>
    -- the binding of `k`: its conjunct of `ncO` is the claim
    cases hs
    rw [ncO.eq_2, Bool.and_eq_true] at hn
    simpa [hk, hl] using hn.1
  | case3 _ _ _ _ ih =>
    rw [ncO.eq_2, Bool.and_eq_true] at hn
    exact ih hn.2 hs

theorem ncV_nonarr {tv : JVal} {s : OSpec JVal} (h : ncV tv s = true) : isArr tv = false := by
  cases tv with
  | arr _ => cases s <;> cases h    -- a list is neither the scalar a leaf asks for nor the map a node asks for
  | _ => rfl

theorem some_obj_of_meets {tkvs : List (String × JVal)} {b : Option JVal} {la : JVal}
    (h : meetsB .full (.obj tkvs) (strip (b.getD .null)) la = true) : ∃ xkvs, b = some (.obj xkvs) := by
  obtain ⟨S, hS, -⟩ := meetsB_obj_iff.mp h
  cases b with
  | none => cases hS
  | some x =>
    cases x with
    | obj xkvs => exact ⟨_, rfl⟩
    | _ => cases hS

mutual
/-- `b` is what the view has at the place written (`none`: the key is absent, read as `null`) -/
theorem mergeV_meets (s : OSpec JVal) (t : JVal) (b : Option JVal) (hn : noDupB t = true) (hs : s.WF)
    (hc : ncV t s = true) (hm : meetsB .full t (strip (b.getD .null)) (strip (b.getD .null)) = true) :
    meetsB .full t (strip (mergeV b s)) (strip (mergeV b s)) = true := by
  match s with
  | .leaf v =>
    rw [ncV.eq_1, Bool.and_eq_true, Bool.and_eq_true] at hc
    rw [mergeV, strip_scalar v hc.1.2, meetsB_scalar hc.1.1]; exact hc.2
  | .node kvs =>
    match t with
    | .obj tkvs =>
      rw [ncV.eq_2] at hc
      obtain ⟨xkvs, rfl⟩ := some_obj_of_meets hm
      show meetsB .full (.obj tkvs) (.obj (stripO (mergeO xkvs kvs))) (.obj (stripO (mergeO xkvs kvs))) = true
      refine meets_obj_change hm (fun _ => rfl) ?_
      rintro ⟨k, tv⟩ hkv hold
      cases hd : isDirective k
      case true => exact KeyMeets.of_directive hd
      case false =>
        have hl := lookup_of_mem_nodup (noDupB_obj.mp hn).1 hkv
        -- key by key: what the overlay does not write stays, what it writes is the merge into what was there
        have hlk := lookup_stripO hd (mergeO xkvs kvs)
        rw [mergeO_lookup k kvs hs xkvs] at hlk
        split at hlk
        next hsl =>
          have e1 : lookup k (stripO (mergeO xkvs kvs)) = lookup k (stripO xkvs) := by rw [hlk, lookup_stripO hd]
          exact (KeyMeets.congr e1 e1).mpr hold
        next s' hsl =>
          have hcs := ncO_lookup tkvs k tv hd hl kvs s' hc hsl
          exact KeyMeets.self_change hd (ncV_nonarr hcs) hold hlk fun h0 =>
            mergeO_meets_at kvs k s' hsl hs tv (lookup k xkvs) (noDupB_of_lookup hn hl) hcs
              (by rwa [← laVal_stripO hd])
    | .null | .bool _ | .int _ | .flt _ | .str _ | .arr _ => contradiction
termination_by structural s
/-- a member of the block so that the step from a node to its child is a structural recursion through the
    list of children -/
theorem mergeO_meets_at (kvs : List (String × OSpec JVal)) (k : String) (s : OSpec JVal)
    (hl : specLookup k kvs = some s) (hs : WFO kvs) (tv : JVal) (b : Option JVal) (hn : noDupB tv = true)
    (hc : ncV tv s = true) (hm : meetsB .full tv (strip (b.getD .null)) (strip (b.getD .null)) = true) :
    meetsB .full tv (strip (mergeV b s)) (strip (mergeV b s)) = true := by
  match kvs with
  | [] => simp [specLookup] at hl
  | (k', s') :: rest =>
    obtain ⟨_, hs1, hs2⟩ := hs
    by_cases e : k' = k
    · simp only [specLookup, e, ↓reduceIte, Option.some.injEq] at hl
      subst hl
      exact mergeV_meets s' tv b hn hs1 hc hm
    · simp only [specLookup, e, ↓reduceIte] at hl
      exact mergeO_meets_at rest k s hl hs2 tv b hn hc hm
termination_by structural kvs
end

theorem mergeO_meets (kvs : List (String × OSpec JVal)) (k : String) (s : OSpec JVal)
    (hl : specLookup k kvs = some s) (hs : WFO kvs) (tv : JVal) (hw : wfB tv = true) (hn : noDupB tv = true)
    (hc : ncV tv s = true) :
    meetsB .full tv (strip (mergeV (some tv) s)) (strip (mergeV (some tv) s)) = true :=
  mergeO_meets_at kvs k s hl hs tv (some tv) hn hc (meets_strip_self tv hw hn)

/-- `…["metadata"]["ownerReferences"] = refs` as an overlay -/
def ownerSpec (r : JVal) : OSpec JVal := .node [("metadata", .node [(ownerReferences, .leaf r)])]

theorem ownerSpec_wf (r : JVal) : (ownerSpec r).WF :=
  ⟨List.not_mem_nil, ⟨List.not_mem_nil, trivial, trivial⟩, trivial⟩

theorem setOwnerRefs_eq_merge {r x y : JVal} (h : setOwnerRefs r x = some y) :
    y = mergeV (some x) (ownerSpec r) := by
  obtain ⟨kvs, mkvs, rfl, hm, rfl⟩ := setOwnerRefs_some.mp h
  simp only [ownerSpec, mergeV, mergeO, fieldsOf, hm]

theorem ncV_ownerSpec {t : JVal} (hf : ownerRefsFree t = true) (r : JVal) : ncV t (ownerSpec r) = true := by
  obtain ⟨tkvs, tm, rfl, hm, ho⟩ := ownerRefsFree_iff.mp hf
  -- at `metadata` the overlay descends into the target's map; there the target has no `ownerReferences`
  simp [ownerSpec, ncV, ncO, hm, ho]

theorem create_view_meets (t cv : JVal) (ov : List (String × OSpec JVal)) (refs : Option JVal)
    (hw : wfB t = true) (hn : noDupB t = true) (hf : ownerRefsFree t = true)
    (hov : WFO ov) (hc : noContradict t ov = true) (hv : createViewOf t ov refs = some cv) :
    meetsB .full t (strip cv) (strip cv) = true := by
  obtain ⟨tkvs, -, rfl, -⟩ := ownerRefsFree_iff.mp hf
  have hm := mergeV_meets (.node ov) _ (some (.obj tkvs)) hn hov (by rw [ncV.eq_2]; exact hc)
    (meets_strip_self _ hw hn)
  cases refs with
  | none => cases hv; exact hm
  | some r =>
    rw [setOwnerRefs_eq_merge (show setOwnerRefs r (.obj (mergeO tkvs ov)) = some cv from hv)]
    exact mergeV_meets (ownerSpec r) _ _ hn (ownerSpec_wf r) (ncV_ownerSpec hf r) hm

theorem view_body_meets (c : Codec) (t x body : JVal) (hn : noDupB t = true) (ha : annFree t = true)
    (hm : meetsB .full t (strip x) (strip x) = true) (hb : prepareForApi c x = some body) :
    meetsB .full t body (strip x) = true := by
  obtain ⟨kvs, mkvs, akvs, hx, hmS, haS, rfl⟩ := prepareForApi_some.mp hb
  rw [hx] at hm ⊢
  cases t with
  | obj tkvs => exact ann_write _ tkvs kvs mkvs akvs _ hm hn ha hmS haS
  | _ => contradiction

theorem view_body_extract (c : Codec) (x body : JVal) (hb : prepareForApi c x = some body)
    (hr : c.reads (strip x)) : extractLastApplied c body = some (strip x) := by
  obtain ⟨kvs, mkvs, akvs, hx, -, -, rfl⟩ := prepareForApi_some.mp hb
  rw [hx] at hr ⊢
  exact (extract_of_lookups c hr.1 (lookup_insert_self ..) (lookup_insert_self ..) (lookup_insert_self ..)).trans hr.2

theorem liveRefs_some {live v : JVal} (h : liveRefs live = some v) :
    ∃ kvs mkvs, live = .obj kvs ∧ lookup "metadata" kvs = some (.obj mkvs) ∧ lookup ownerReferences mkvs = some v := by
  revert h
  fun_cases liveRefs live
  -- a map with a `metadata` map; every other shape answers `none`
  case case1 kvs mkvs hm => exact fun h => ⟨kvs, mkvs, rfl, hm, h⟩
  all_goals exact nofun

theorem liveRefs_of_lookup {kvs mkvs : List (String × JVal)} (h : lookup "metadata" kvs = some (.obj mkvs)) :
    liveRefs (.obj kvs) = lookup ownerReferences mkvs := by
  simp only [liveRefs, h]

theorem scanRefs_nonempty {uid : JVal} {xs : List JVal} (h : scanRefs uid xs = some true) : xs.isEmpty = false := by
  cases xs with
  | nil => cases h
  | cons _ _ => rfl

theorem refPresent_congr (c : Cfg) {live live' : JVal} (h : liveRefs live' = liveRefs live) :
    refPresent c live' = refPresent c live := by
  unfold refPresent; rw [h]

theorem refPresent_iff {c : Cfg} {live : JVal} {refkvs : List (String × JVal)} {xs : List JVal}
    (hr : c.ownerRef = .obj refkvs) (hl : liveRefs live = some (.arr xs)) :
    refPresent c live = true ↔ scanRefs (uidOf refkvs) xs = some true := by
  simp only [refPresent, hr, hl, beq_iff_eq]

theorem ownerFixOf_present (c : Cfg) (live : JVal) (h : refPresent c live = true) :
    ownerFixOf c live = some .none := by
  unfold refPresent at h
  split at h
  next refkvs xs hr hl =>
    obtain ⟨kvs, mkvs, rfl, hm, ho⟩ := liveRefs_some hl
    rw [beq_iff_eq] at h
    -- `ite_self`: the answer is `some .none` whether or not the function should own
    simp only [ownerFixOf, hr, hm, ho, truthy, scanRefs_nonempty h, h, Bool.not_false, Bool.not_true,
      Bool.false_eq_true, ↓reduceIte, ite_self]
  next => cases h

theorem ownerFixOf_not_owned {c : Cfg} (live : JVal) (h : c.shouldOwn = false) : ownerFixOf c live = some .none := by
  simp only [ownerFixOf, h, Bool.not_false, ↓reduceIte]

theorem ownerFixOf_refs {c : Cfg} {live r : JVal} (h : ownerFixOf c live = some (.refs r)) :
    c.shouldOwn = true ∧
      (((liveRefs live = none ∨ ∃ refs, liveRefs live = some refs ∧ truthy refs = false) ∧
          r = .arr [c.ownerRef]) ∨
        ∃ refkvs xs, c.ownerRef = .obj refkvs ∧ liveRefs live = some (.arr xs) ∧
          scanRefs (uidOf refkvs) xs = some false ∧ r = .arr (xs ++ [c.ownerRef])) := by
  revert h
  fun_cases ownerFixOf c live
  -- three exits of the check ask for references; the others answer `none`, `some .none` or raise
  -- `metadata` has no `ownerReferences`
  case case2 hown _ _ _ _ hm ho =>
    rintro ⟨⟩; exact ⟨by simpa using hown, .inl ⟨.inl ((liveRefs_of_lookup hm).trans ho), rfl⟩⟩
  -- falsy `ownerReferences`
  case case3 hown _ _ _ _ hm refs ho hf =>
    rintro ⟨⟩
    exact ⟨by simpa using hown, .inl ⟨.inr ⟨refs, (liveRefs_of_lookup hm).trans ho, by simpa using hf⟩, rfl⟩⟩
  -- a list in which the scan does not find the parent's uid
  case case6 hown refkvs hr _ _ hm xs hsc ho _ =>
    rintro ⟨⟩; exact ⟨by simpa using hown, .inr ⟨refkvs, xs, hr, (liveRefs_of_lookup hm).trans ho, hsc, rfl⟩⟩
  all_goals exact nofun

theorem scanRefs_append (uid : JVal) (refkvs : List (String × JVal)) (hu : pyEq (uidOf refkvs) uid = true)
    (ys : List JVal) (h : allObj ys = true) : scanRefs uid (ys ++ [.obj refkvs]) = some true := by
  fun_induction allObj ys with
  | case1 => simp [scanRefs, hu]
  | case2 _ _ ih =>
    simp only [List.cons_append, scanRefs]
    split
    · rfl
    · exact ih h
  | case3 => cases h

theorem liveRefs_eq_lookups (live : JVal) :
    lookup ownerReferences (laObjKvs ((lookup "metadata" (laObjKvs live)).getD .null)) = liveRefs live := by
  cases live with
  | obj lkvs =>
    simp only [laObjKvs, liveRefs]
    cases lookup "metadata" lkvs with
    | none => rfl
    | some md => cases md <;> rfl
  | _ => rfl

theorem liveRefs_of_getD {kvs mkvs : List (String × JVal)}
    (h : (lookup "metadata" kvs).getD (.obj []) = .obj mkvs) : liveRefs (.obj kvs) = lookup ownerReferences mkvs := by
  cases hl : lookup "metadata" kvs with
  | none => rw [hl] at h; cases h; simp only [liveRefs, hl]; rfl
  | some md => rw [hl] at h; cases h; exact liveRefs_of_lookup hl

/-- For a list `v` the merge is `v` itself: the patch replaces the references.  `hnn`: a `null` in a
    merge-patch deletes the key. -/
theorem liveRefs_patched (c : Codec) (x body : JVal) (hx : noDupB x = true) (hb : prepareForApi c x = some body)
    (hnn : liveRefs (strip x) ≠ some .null) (live : JVal) :
    liveRefs (mergePatch live body) =
      match liveRefs (strip x) with
      | none => liveRefs live
      | some v => some (mergePatch ((liveRefs live).getD .null) v) := by
  obtain ⟨kvs, mkvs, akvs, hsx, hmS, -, rfl⟩ := prepareForApi_some.mp hb
  have hsn := noDupB_strip x hx
  rw [hsx] at hsn hnn ⊢
  have hnm := noDupB_getD hsn hmS
  rw [noDupB_obj] at hsn hnm
  rw [liveRefs_of_getD hmS] at hnn ⊢
  rw [annotated, mergePatch_obj, liveRefs_of_lookup (lookup_mergePatchO_insert "metadata" _ hsn.1 _)]
  cases ho : lookup ownerReferences mkvs with
  | none =>
    rw [lookup_mergePatchO_of_none _ _ ((JVal.lookup_insert_ne _ (by simp [ownerReferences]) _).trans ho)]
    exact liveRefs_eq_lookups live
  | some v =>
    rw [lookup_mergePatchO_mem (pv := v) (by rintro rfl; exact hnn ho) _ (nodup_keys_insert _ _ hnm.1) _
      ((JVal.lookup_insert_ne _ (by simp [ownerReferences]) _).trans ho)]
    exact congrArg (fun o => some (mergePatch (Option.getD o .null) v)) (liveRefs_eq_lookups live)

theorem view_patch_facts (c : Codec) (t x body : JVal) (hn : noDupB t = true) (hnn : noNullsB t = true)
    (ha : annFree t = true) (hx : noDupB x = true)
    (hm : meetsB .full t (strip x) (strip x) = true) (hb : prepareForApi c x = some body)
    (hr : c.reads (strip x)) (live : JVal) :
    meetsB .full t (mergePatch live body) (strip x) = true ∧
      extractLastApplied c (mergePatch live body) = some (strip x) := by
  have hmb := view_body_meets c t x body hn ha hm hb
  obtain ⟨kvs, mkvs, akvs, hsx, hmS, haS, rfl⟩ := prepareForApi_some.mp hb
  have hsn := noDupB_strip x hx
  rw [hsx] at hsn hr
  have hnm := noDupB_getD hsn hmS
  have hna := noDupB_getD hnm haS
  have hbn : noDupB (annotated (c.dumps (.obj kvs)) kvs mkvs akvs) = true :=
    noDupB_insert (noDupB_insert (noDupB_insert rfl hna) hnm) hsn
  rw [noDupB_obj] at hsn hnm hna
  refine ⟨meets_mergePatch t _ _ live hnn hbn hmb, ?_⟩
  rw [extract_after_patch c _ hr.1 _ _ _ hsn.1 hnm.1 hna.1 live, hsx]
  exact hr.2

theorem getD_stripO {k : String} (hk : isDirective k = false) (kvs : List (String × JVal)) :
    (lookup k (stripO kvs)).getD (.obj []) = strip ((lookup k kvs).getD (.obj [])) := by
  rw [lookup_stripO hk]; cases lookup k kvs <;> rfl

theorem prepareForApi_isSome (c : Codec) {kvs mkvs akvs : List (String × JVal)}
    (hm : (lookup "metadata" kvs).getD (.obj []) = .obj mkvs)
    (ha : (lookup "annotations" mkvs).getD (.obj []) = .obj akvs) :
    ∃ body, prepareForApi c (.obj kvs) = some body :=
  ⟨_, prepareForApi_some.mpr ⟨stripO kvs, stripO mkvs, stripO akvs, strip_obj kvs,
    by rw [getD_stripO (by decide +kernel), hm, strip_obj], by rw [getD_stripO (by decide +kernel), ha, strip_obj], rfl⟩⟩

theorem prepareForApi_target (c : Codec) (t : JVal) (ha : annFree t = true) :
    ∃ body, prepareForApi c t = some body := by
  cases t with
  | obj tkvs => obtain ⟨_, _, h1, h2⟩ := annFree_getD ha; exact prepareForApi_isSome c h1 h2
  | _ => contradiction

theorem owner_view (t r : JVal) (hw : wfB t = true) (hn : noDupB t = true) (hf : ownerRefsFree t = true)
    (hr : noDupB r = true) :
    ∃ x, setOwnerRefs r t = some x ∧ noDupB x = true ∧ meetsB .full t (strip x) (strip x) = true := by
  obtain ⟨tkvs, tm, rfl, hm, -⟩ := ownerRefsFree_iff.mp hf
  have hx : setOwnerRefs r (.obj tkvs) = some _ := setOwnerRefs_some.mpr ⟨tkvs, tm, rfl, hm, rfl⟩
  refine ⟨_, hx, noDupB_insert (noDupB_insert hr (noDupB_of_lookup hn hm)) hn, ?_⟩
  -- the create view of the empty overlay: `mergeO tkvs [] = tkvs` by computation
  exact create_view_meets (.obj tkvs) _ [] (some r) hw hn hf trivial rfl hx

theorem owner_view_prepares (c : Codec) (t r x : JVal) (ha : annFree t = true)
    (hx : setOwnerRefs r t = some x) : ∃ body, prepareForApi c x = some body := by
  obtain ⟨tkvs, tm, rfl, hm, rfl⟩ := setOwnerRefs_some.mp hx
  obtain ⟨_, ta, h1, h2⟩ := annFree_getD ha
  rw [hm] at h1; cases h1
  refine prepareForApi_isSome c (mkvs := JVal.insert ownerReferences r tm) (akvs := ta) ?_ ?_
  · rw [lookup_insert_self]; rfl
  · rwa [JVal.lookup_insert_ne _ (by simp [ownerReferences])]

theorem refs_kept_by_target_patch (c : Codec) (t body : JVal) (hn : noDupB t = true) (hf : ownerRefsFree t = true)
    (hb : prepareForApi c t = some body) (live : JVal) : liveRefs (mergePatch live body) = liveRefs live := by
  obtain ⟨tkvs, tm, rfl, hm, ho⟩ := ownerRefsFree_iff.mp hf
  have hl : liveRefs (strip (.obj tkvs)) = none := by
    rw [strip_obj, liveRefs_of_lookup (mkvs := stripO tm) (by rw [lookup_stripO (by decide +kernel), hm]; rfl)]
    exact lookup_stripO_none _ ho
  rw [liveRefs_patched c _ body hn hb (by rw [hl]; exact nofun) live, hl]

theorem refs_set_by_owner_patch (c : Codec) (t x body : JVal) (rs : List JVal)
    (hx : setOwnerRefs (.arr rs) t = some x) (hxn : noDupB x = true) (hb : prepareForApi c x = some body)
    (live : JVal) : liveRefs (mergePatch live body) = some (.arr (stripL rs)) := by
  obtain ⟨tkvs, tm, rfl, hm, rfl⟩ := setOwnerRefs_some.mp hx
  have hl : liveRefs (strip (.obj (JVal.insert "metadata" (.obj (JVal.insert ownerReferences (.arr rs) tm)) tkvs))) =
      some (.arr (stripL rs)) := by
    rw [strip_obj, stripO_insert _ (by decide +kernel), strip_obj, stripO_insert _ (by decide +kernel), strip_arr,
      liveRefs_of_lookup (lookup_insert_self ..), lookup_insert_self]
  rw [liveRefs_patched c _ body hxn hb (by rw [hl]; exact nofun) live, hl]
  rfl

end Koreo.R45
