/-
  The FunctionTest runner (`Koreo/FunctionTest.lean`) and its per-case mock API (`Koreo/MockApi.lean`);
  the property theorems are in `Props/C18.lean` and `Props/C19.lean`.

  Verdicts: what makes each verdict function answer `true`, still in terms of `exactMatch` (Props/C19 puts
  `EqMod` in its place).
  Runner: a variant or skipped case hands on the state it received, so a run gives its core cases what the
  run over the core cases alone gives them (`core_run`).
  Mock: `_current_resource` is never reassigned, so after any conversation the mock holds what the LAST
  mutating call materialised over the case's own resource (`run_eq`; `lastMutation` is the last element of
  the mutating sub-list).
-/
import Koreo.MockApi
import Koreo.Lemmas.ExactCompare
namespace Koreo.FT
open Koreo JVal Koreo.Exact
variable {Ov : Type}

theorem containsSub_iff (p : List Char) : ∀ (s : List Char), containsSub p s = true ↔ p <:+: s
  | [] => by
    simp only [containsSub, List.isEmpty_iff, List.infix_nil]
  | c :: cs => by
    simp only [containsSub, Bool.or_eq_true, List.isPrefixOf_iff_prefix, containsSub_iff p cs,
      List.infix_cons_iff]

theorem lowerChars_eq_nil {s : String} : lowerChars s = [] ↔ s = "" := by
  rw [lowerChars, List.map_eq_nil_iff, String.toList_eq_nil_iff]

theorem msgOk_iff (e : String) (a : Option String) :
    msgOk e a = true ↔ lowerChars e <:+: lowerChars (a.getD "") := by
  -- Python guards the containment test twice (`not expected or (actual and …)`); both guards follow
  -- from containment, because only the empty pattern is contained in an empty text
  have hempty : lowerChars e <:+: lowerChars "" ↔ e = "" := by
    rw [show lowerChars "" = [] from rfl, List.infix_nil, lowerChars_eq_nil]
  cases a with
  | none => simpa [msgOk] using hempty.symm
  | some m =>
    simp only [msgOk, Bool.or_eq_true, String.isEmpty_iff, Bool.and_eq_true, Bool.not_eq_true',
      String.isEmpty_eq_false_iff, containsSub_iff, Option.getD_some]
    constructor
    · rintro (rfl | ⟨-, h⟩)
      · exact List.nil_infix
      · exact h
    · intro h
      by_cases hm : m = ""
      · exact .inl (hempty.1 (hm ▸ h))
      · exact .inr ⟨hm, h⟩

theorem verdict_outcome (e : Expect) (r : FnResult) : verdict (.outcome e) r = outcomeVerdict e r.out := rfl
theorem verdict_ret (v : JVal) (r : FnResult) : verdict (.ret v) r = returnVerdict v r.out := rfl
theorem verdict_resource (x : JVal) (r : FnResult) :
    verdict (.resource x) r = resourceVerdict x r.eff r.out := rfl
theorem verdict_delete (b : Bool) (r : FnResult) : verdict (.delete b) r = deleteVerdict b r.eff := rfl

theorem returnVerdict_iff (e : JVal) (o : Out) :
    returnVerdict e o = true ↔ ∃ v, o = .ok v ∧ exactMatch e v = true := by
  cases o <;> simp [returnVerdict]

theorem resourceVerdict_iff (e : JVal) (eff : Effect) (out : Out) :
    resourceVerdict e eff out = true ↔
      (∃ d m, out = .retry d m) ∧
      ∃ m, eff.materialized = some m ∧ exactMatch (stripLastApplied e) (stripLastApplied m) = true := by
  fun_cases resourceVerdict e eff out <;> simp_all

theorem deleteVerdict_iff (b : Bool) (eff : Effect) :
    deleteVerdict b eff = true ↔ (eff = .deleted ↔ b = true) := by
  cases eff <;> cases b <;> simp [deleteVerdict, Effect.deleteCalled]

/-- the only kind of case that may change the threaded state; the others are called auxiliary (`aux` in names) -/
def isCore (c : Case Ov) : Bool := !c.skip && !c.variant

def core (cs : List (Case Ov)) : List (Case Ov) := cs.filter isCore

def stateAfter (env : Env Ov) (st : State) (cs : List (Case Ov)) : State :=
  cs.foldl (fun s c => (runCase env s c).1) st

/-- results zipped with the cases that produced them; shorter when the run stopped -/
def coreResults (cs : List (Case Ov)) (rs : List CaseResult) : List CaseResult :=
  ((cs.zip rs).filter (fun p => isCore p.1)).map (·.2)

/-- only a variant's setup error can make an auxiliary case fatal (`runCase_aux`), so this excludes little -/
def NoAuxFatal (env : Env Ov) : State → List (Case Ov) → Prop
  | _, [] => True
  | st, c :: cs =>
    if isCore c then (runCase env st c).2.2 = true ∨ NoAuxFatal env (runCase env st c).1 cs
    else (runCase env st c).2.2 = false ∧ NoAuxFatal env st cs

theorem runCase_cases (env : Env Ov) (st : State) (c : Case Ov) :
    (c.skip = true ∧ runCase env st c = (st, .skipped, false)) ∨
    (c.skip = false ∧ (runCase env st c = (st, .setupError, true) ∨
      runCase env st c = (st, .overlayError, !c.variant) ∨
      ∃ resource, runCase env st c = finishCase env st c (caseInputs st c) resource)) := by
  fun_cases runCase env st c
  case case1 hs => exact .inl ⟨hs, rfl⟩
  all_goals refine .inr ⟨Bool.eq_false_iff.2 ‹¬c.skip = true›, ?_⟩
  -- an overlay that does not evaluate / evaluates / has no resource to lay over; no overlay
  case case2 => exact .inr (.inl rfl)
  case case3 => exact .inr (.inr ⟨_, rfl⟩)
  case case4 => exact .inl rfl
  case case5 => exact .inr (.inr ⟨_, rfl⟩)

theorem runCase_aux (env : Env Ov) (st : State) (c : Case Ov) (h : isCore c = false) :
    (runCase env st c).1 = st ∧
    ((runCase env st c).2.2 = true ↔ (runCase env st c).2.1 = .setupError) := by
  rcases runCase_cases env st c with ⟨-, e⟩ | ⟨hs, e | e | ⟨r, e⟩⟩
  · rw [e]; simp
  · rw [e]; simp
  all_goals have hv : c.variant = true := by simpa [isCore, hs] using h
  · rw [e]; simp [hv]
  · rw [e]; simp [finishCase, hv]

theorem core_cons (c : Case Ov) (cs : List (Case Ov)) :
    core (c :: cs) = if isCore c then c :: core cs else core cs := by
  simp only [core, List.filter_cons]

theorem stateAfter_cons (env : Env Ov) (st : State) (c : Case Ov) (cs : List (Case Ov)) :
    stateAfter env st (c :: cs) = stateAfter env (runCase env st c).1 cs := rfl

theorem stateAfter_core (env : Env Ov) : ∀ (st : State) (cs : List (Case Ov)),
    stateAfter env st cs = stateAfter env st (core cs)
  | _, [] => rfl
  | st, c :: cs => by
    rw [core_cons, stateAfter_cons]
    cases hc : isCore c with
    | true => exact stateAfter_core env _ cs
    | false => rw [(runCase_aux env st c hc).1]; exact stateAfter_core env st cs

theorem runCases_cons (env : Env Ov) (st : State) (c : Case Ov) (cs : List (Case Ov)) :
    runCases env st (c :: cs) =
      if (runCase env st c).2.2 then ([(runCase env st c).2.1], true)
      else ((runCase env st c).2.1 :: (runCases env (runCase env st c).1 cs).1,
            (runCases env (runCase env st c).1 cs).2) := rfl

theorem runCases_append (env : Env Ov) : ∀ (st : State) (pre rest : List (Case Ov)),
    (runCases env st pre).2 = false →
    (runCases env st pre).1.length = pre.length ∧
    runCases env st (pre ++ rest) =
      ((runCases env st pre).1 ++ (runCases env (stateAfter env st pre) rest).1,
       (runCases env (stateAfter env st pre) rest).2)
  | st, [], rest, _ => by simp [runCases, stateAfter]
  | st, c :: pre, rest, h => by
    rw [List.cons_append, runCases_cons, stateAfter_cons]
    rw [runCases_cons] at h ⊢
    cases hf : (runCase env st c).2.2 with
    | true => simp [hf] at h
    | false =>
      simp only [hf, Bool.false_eq_true, if_false] at h ⊢
      obtain ⟨hl, happ⟩ := runCases_append env _ pre rest h
      simp [happ, hl]

theorem coreResults_cons (c : Case Ov) (cs : List (Case Ov)) (r : CaseResult) (rs : List CaseResult) :
    coreResults (c :: cs) (r :: rs) = if isCore c then r :: coreResults cs rs else coreResults cs rs := by
  simp only [coreResults, List.zip_cons_cons, List.filter_cons]
  split <;> rfl

theorem core_run (env : Env Ov) (st : State) (cs : List (Case Ov)) : NoAuxFatal env st cs →
    coreResults cs (runCases env st cs).1 = (runCases env st (core cs)).1 ∧
    (runCases env st cs).2 = (runCases env st (core cs)).2 := by
  -- along the recursion of `NoAuxFatal`: no case; a core case; an auxiliary case
  fun_induction NoAuxFatal env st cs with
  | case1 => exact fun _ => ⟨rfl, rfl⟩
  | case2 st c cs hc ih =>
    intro h
    rw [core_cons, if_pos hc, runCases_cons, runCases_cons]
    cases hf : (runCase env st c).2.2 with
    | true => simp [hc, coreResults]
    | false =>
      have ih := ih (h.resolve_left (by simp [hf]))
      simp [coreResults_cons, hc, ih.1, ih.2]
  | case3 st c cs hc ih =>
    rintro ⟨hf, h⟩
    have ih := ih h
    rw [core_cons, if_neg hc, runCases_cons]
    simp [hf, (runCase_aux env st c (Bool.eq_false_iff.2 hc)).1, coreResults_cons, hc, ih.1, ih.2]

end Koreo.FT

namespace Koreo.FT.Mock
open Koreo JVal Koreo.FT

/-- `Nodup`: the body is a Python dict.  With a repeated key `mergeTop` would keep the last binding,
    `lookup` finds the first. -/
theorem lookup_mergeTop (k : String) : ∀ (ov base : List (String × JVal)), (keys ov).Nodup →
    lookup k (mergeTop base ov) = (lookup k ov).or (lookup k base)
  | [], _, _ => rfl
  | (k', v) :: rest, base, hnd => by
    have ⟨hk', hnd'⟩ := nodup_keys_cons.1 hnd
    rw [mergeTop, lookup_mergeTop k rest _ hnd', lookup_insert, lookup_cons]
    split
    next hk => rw [← hk, lookup_none_of_not_mem hk']; rfl
    next => rfl

theorem lastMutation_cons (c : Call) (cs : List Call) :
    lastMutation (c :: cs) = (lastMutation cs).or (if c.isMutation then some c else none) := by
  rw [lastMutation]; cases lastMutation cs <;> rfl

theorem lastMutation_eq : ∀ cs : List Call, lastMutation cs = (cs.filter Call.isMutation).getLast?
  | [] => rfl
  | c :: cs => by
    rw [lastMutation_cons, lastMutation_eq cs, List.filter_cons]
    split
    · rw [List.getLast?_cons]; cases (cs.filter Call.isMutation).getLast? <;> rfl
    · exact Option.or_none

theorem lastMutation_isMutation (cs : List Call) (d : Call) (h : lastMutation cs = some d) :
    d.isMutation = true :=
  (List.mem_filter.1 (List.mem_of_getLast? (lastMutation_eq cs ▸ h))).2

theorem lastMutation_none_iff (cs : List Call) :
    lastMutation cs = none ↔ cs.any Call.isMutation = false := by
  simp [lastMutation_eq]

theorem run_cons (m : Mock) (c : Call) (cs : List Call) : run m (c :: cs) = run (step m c) cs := rfl

theorem run_eq : ∀ (cs : List Call) (m : Mock), run m cs =
    { current := m.current
      materialized := ((effectOf m.current cs).materialized).or m.materialized
      apiCalled := m.apiCalled || cs.any Call.isMutation
      deleteCalled := m.deleteCalled || cs.any Call.isDelete }
  | [], m => by simp [run, effectOf, lastMutation, Effect.materialized]
  | c :: cs, m => by
    have hc : (step m c).current = m.current := by cases c <;> rfl
    rw [run_cons, run_eq cs, hc]
    unfold effectOf
    rw [lastMutation_cons]
    cases hl : lastMutation cs with
    | some d =>
      have := lastMutation_isMutation cs d hl
      cases d <;> cases c <;> simp_all [step, Call.isMutation, Call.isDelete, Effect.materialized]
    | none => cases c <;> simp [step, Call.isMutation, Call.isDelete, Effect.materialized]

theorem effectOf_of_none {cs : List Call} (cur : Option JVal) (h : lastMutation cs = none) :
    effectOf cur cs = .none := by
  rw [effectOf, h]

theorem effectOf_of_delete {cs : List Call} (cur : Option JVal) (h : lastMutation cs = some .delete) :
    effectOf cur cs = .deleted := by
  rw [effectOf, h]

theorem effectOf_of_write {cs : List Call} {d : JVal} (cur : Option JVal)
    (h : lastMutation cs = some (.write d)) : effectOf cur cs = .wrote (merged cur d) := by
  rw [effectOf, h]

/-- the three cases above are all: a GET is never the last mutation -/
theorem effectOf_cases (cur : Option JVal) (cs : List Call) :
    (lastMutation cs = none ∧ cs.any Call.isMutation = false ∧ effectOf cur cs = .none) ∨
    (cs.any Call.isMutation = true ∧
      ((lastMutation cs = some .delete ∧ effectOf cur cs = .deleted) ∨
       ∃ d, lastMutation cs = some (.write d) ∧ effectOf cur cs = .wrote (merged cur d))) := by
  cases hl : lastMutation cs with
  | none => exact .inl ⟨rfl, (lastMutation_none_iff cs).mp hl, effectOf_of_none cur hl⟩
  | some c =>
    have hany : cs.any Call.isMutation = true := by
      rw [← Bool.not_eq_false, ← lastMutation_none_iff, hl]; exact nofun
    cases c with
    | get => exact absurd (lastMutation_isMutation cs _ hl) (by decide)
    | delete => exact .inr ⟨hany, .inl ⟨rfl, effectOf_of_delete cur hl⟩⟩
    | write d => exact .inr ⟨hany, .inr ⟨d, rfl, effectOf_of_write cur hl⟩⟩

theorem effectOf_apiCalled (cur : Option JVal) (cs : List Call) :
    (effectOf cur cs).apiCalled = cs.any Call.isMutation := by
  rcases effectOf_cases cur cs with ⟨-, h, e⟩ | ⟨h, ⟨-, e⟩ | ⟨d, -, e⟩⟩ <;> rw [e, h] <;> rfl

theorem effectOf_deleteCalled (cur : Option JVal) (cs : List Call) (h : (cs.filter Call.isMutation).length ≤ 1) :
    (effectOf cur cs).deleteCalled = cs.any Call.isDelete := by
  have ha : cs.any Call.isDelete = (cs.filter Call.isMutation).any Call.isDelete := by
    rw [List.any_filter]; congr; funext c; cases c <;> rfl
  rw [ha, effectOf, lastMutation_eq]
  match cs.filter Call.isMutation, h with
  | [], _ => rfl
  | [d], _ => cases d <;> rfl

theorem handedOn_run (cur : Option JVal) (cs : List Call) (resource : Option JVal) :
    handedOn (run (fresh cur) cs) resource =
      if cs.any Call.isMutation then (effectOf cur cs).materialized else resource := by
  rw [handedOn, run_eq]
  simp only [fresh, Bool.false_or, Option.or_none]

theorem merged_of_falsy {cur : Option JVal} (body : JVal) (h : truthyO cur = false) : merged cur body = body := by
  simp [merged, h]

theorem merged_obj {b : List (String × JVal)} (o : List (String × JVal)) (h : b ≠ []) :
    merged (some (.obj b)) (.obj o) = .obj (mergeTop b o) := by
  cases b with
  | nil => exact absurd rfl h
  | cons x xs => rfl
end Koreo.FT.Mock
