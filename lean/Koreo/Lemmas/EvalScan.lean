/-
  Lemmas for C10 (`Koreo/EvalScan.lean`).
  Trees: `scan` finds exactly the error objects, and the tree functions values flow through create none; each such
  fact is proved by the mutual recursion its function is defined by, with `CleanKvs` / `CleanList` for the members
  about binding lists and item lists.  What the forced name/kind overlay overwrites it never looks at, which is why
  the scan at the `resource` site cannot be left to the re-scan after it.
  Runs: a small Hoare-style calculus for programs built from `site`, in three strengths — `Run.Sat` for Functions
  (a failed evaluation is answered by a PermFail at its site), `Run.WSat` for a step's body (by some PermFail),
  `Run.Done` for what runs to its end whatever happens (attempted sub-runs, the workflow).  Every program of the
  model then has one lemma that follows its text, under `Fn.Clean` / `Logic.Clean` (every environment a step's logic
  can reach is error-free).
-/
import Koreo.EvalScan
namespace Koreo.EvalScan
open ETree Run

theorem hasErr_arr {xs : List ETree} : HasErr (.arr xs) ↔ ∃ x, x ∈ xs ∧ HasErr x :=
  ⟨fun h => by cases h with | item hx h => exact ⟨_, hx, h⟩, fun ⟨_, hx, h⟩ => .item hx h⟩

theorem hasErr_obj {kvs : List (EKey × ETree)} :
    HasErr (.obj kvs) ↔ ∃ k v, (k, v) ∈ kvs ∧ (k = .err ∨ HasErr v) := by
  constructor
  · intro h
    cases h with
    | key hm => exact ⟨_, _, hm, .inl rfl⟩
    | value hm h => exact ⟨_, _, hm, .inr h⟩
  · rintro ⟨k, v, hm, rfl | h⟩
    · exact .key hm
    · exact .value hm h

theorem exists_pair_mem_cons {α β : Type} {p : α → β → Prop} {a : α} {b : β} {l : List (α × β)} :
    (∃ x y, (x, y) ∈ (a, b) :: l ∧ p x y) ↔ p a b ∨ ∃ x y, (x, y) ∈ l ∧ p x y := by
  constructor
  · rintro ⟨x, y, hm, h⟩
    rcases List.mem_cons.mp hm with e | hm
    · cases e; exact .inl h
    · exact .inr ⟨x, y, hm, h⟩
  · rintro (h | ⟨x, y, hm, h⟩)
    · exact ⟨a, b, List.mem_cons_self, h⟩
    · exact ⟨x, y, List.mem_cons_of_mem _ hm, h⟩

mutual
theorem scan_iff (t : ETree) : scan t = true ↔ HasErr t := by
  cases t with
  | err => exact ⟨fun _ => .here, fun _ => rfl⟩
  | arr xs => rw [scan, scanL_iff xs, hasErr_arr]
  | obj kvs => rw [scan, scanO_iff kvs, hasErr_obj]
  | _ => exact ⟨nofun, nofun⟩
theorem scanL_iff (xs : List ETree) : scanL xs = true ↔ ∃ x, x ∈ xs ∧ HasErr x := by
  cases xs with
  | nil => simp [scanL]
  | cons x xs => simp [scanL, scan_iff x, scanL_iff xs]
theorem scanO_iff (kvs : List (EKey × ETree)) :
    scanO kvs = true ↔ ∃ k v, (k, v) ∈ kvs ∧ (k = .err ∨ HasErr v) := by
  cases kvs with
  | nil => simp [scanO]
  | cons kv rest =>
    obtain ⟨k, v⟩ := kv
    rw [exists_pair_mem_cons, ← scanO_iff rest, ← scan_iff v]
    cases k <;> simp [scanO]
end

theorem scan_false_iff {t : ETree} : scan t = false ↔ ErrFree t := by
  rw [ErrFree, ← scan_iff, Bool.not_eq_true]

def CleanKvs (kvs : List (EKey × ETree)) : Prop := ∀ kv ∈ kvs, kv.1 ≠ .err ∧ ErrFree kv.2

def CleanList (xs : List ETree) : Prop := ∀ x ∈ xs, ErrFree x

theorem errFree_arr {xs : List ETree} : ErrFree (.arr xs) ↔ CleanList xs := by
  rw [ErrFree, hasErr_arr]
  exact ⟨fun h x hx hx' => h ⟨x, hx, hx'⟩, fun h ⟨x, hx, hx'⟩ => h x hx hx'⟩

theorem errFree_obj {kvs : List (EKey × ETree)} : ErrFree (.obj kvs) ↔ CleanKvs kvs := by
  rw [ErrFree, hasErr_obj]
  exact ⟨fun h kv hkv => ⟨fun hk => h ⟨_, _, hkv, .inl hk⟩, fun hv => h ⟨_, _, hkv, .inr hv⟩⟩,
    fun h ⟨_, _, hm, hkv⟩ => hkv.elim (h _ hm).1 (h _ hm).2⟩

theorem errFree_null : ErrFree .null := scan_false_iff.mp rfl
theorem errFree_str (s : String) : ErrFree (.str s) := scan_false_iff.mp rfl
theorem errFree_bool (b : Bool) : ErrFree (.bool b) := scan_false_iff.mp rfl
theorem cleanKvs_nil : CleanKvs [] := fun _ h => nomatch h
theorem errFree_emptyObj : ErrFree (.obj []) := errFree_obj.mpr cleanKvs_nil

theorem cleanKvs_cons {k : EKey} {v : ETree} {rest : List (EKey × ETree)} :
    CleanKvs ((k, v) :: rest) ↔ (k ≠ .err ∧ ErrFree v) ∧ CleanKvs rest :=
  List.forall_mem_cons

theorem cleanKvs_kvsOf {t : ETree} (h : ErrFree t) : CleanKvs (kvsOf t) := by
  cases t with
  | obj kvs => exact errFree_obj.mp h
  | _ => exact cleanKvs_nil

theorem cleanKvs_lookup {kvs : List (EKey × ETree)} (h : CleanKvs kvs) {k : EKey} {v : ETree}
    (hl : lookup k kvs = some v) : ErrFree v := by
  -- no binding; the head binds `k`; the head binds another key (the same three cases for `insert` and `erase`)
  fun_induction lookup k kvs with
  | case1 => cases hl
  | case2 => cases hl; exact (cleanKvs_cons.mp h).1.2
  | case3 _ _ _ _ ih => exact ih (cleanKvs_cons.mp h).2 hl

theorem errFree_lookup_getD {kvs : List (EKey × ETree)} (h : CleanKvs kvs) {k : EKey} {d : ETree}
    (hd : ErrFree d) : ErrFree ((lookup k kvs).getD d) := by
  cases hl : lookup k kvs with
  | none => exact hd
  | some v => exact cleanKvs_lookup h hl

theorem cleanKvs_insert {kvs : List (EKey × ETree)} (h : CleanKvs kvs) {k : EKey} {v : ETree}
    (hk : k ≠ .err) (hv : ErrFree v) : CleanKvs (insert k v kvs) := by
  fun_induction ETree.insert k v kvs with
  | case1 => exact cleanKvs_cons.mpr ⟨⟨hk, hv⟩, cleanKvs_nil⟩
  | case2 => exact cleanKvs_cons.mpr ⟨⟨hk, hv⟩, (cleanKvs_cons.mp h).2⟩
  | case3 _ _ _ _ ih => exact cleanKvs_cons.mpr ⟨(cleanKvs_cons.mp h).1, ih (cleanKvs_cons.mp h).2⟩

theorem cleanKvs_erase {kvs : List (EKey × ETree)} (h : CleanKvs kvs) (k : EKey) : CleanKvs (erase k kvs) := by
  fun_induction erase k kvs with
  | case1 => exact h
  | case2 => exact (cleanKvs_cons.mp h).2
  | case3 _ _ _ _ ih => exact cleanKvs_cons.mpr ⟨(cleanKvs_cons.mp h).1, ih (cleanKvs_cons.mp h).2⟩

/-! Two layers on purpose: `CleanKvs` speaks of a binding list, which is what the mutual inductions over a map's
    bindings need; the programs handle maps as values, `.obj kvs`, and use the four lemmas below. -/

theorem ErrFree.kvsOf {t : ETree} (h : ErrFree t) : ErrFree (.obj (kvsOf t)) := errFree_obj.mpr (cleanKvs_kvsOf h)

theorem ErrFree.lookup {kvs : List (EKey × ETree)} (h : ErrFree (.obj kvs)) {k : EKey} {v : ETree}
    (hl : lookup k kvs = some v) : ErrFree v :=
  cleanKvs_lookup (errFree_obj.mp h) hl

theorem ErrFree.insert {kvs : List (EKey × ETree)} (h : ErrFree (.obj kvs)) (k : String) {v : ETree}
    (hv : ErrFree v) : ErrFree (.obj (insert (.str k) v kvs)) :=
  errFree_obj.mpr (cleanKvs_insert (errFree_obj.mp h) nofun hv)

theorem ErrFree.erase {kvs : List (EKey × ETree)} (h : ErrFree (.obj kvs)) (k : EKey) :
    ErrFree (.obj (erase k kvs)) :=
  errFree_obj.mpr (cleanKvs_erase (errFree_obj.mp h) k)

theorem cleanList_nil : CleanList [] := fun _ h => nomatch h

theorem cleanList_cons {x : ETree} {xs : List ETree} : CleanList (x :: xs) ↔ ErrFree x ∧ CleanList xs :=
  List.forall_mem_cons

theorem cleanList_getD {xs : List ETree} (h : CleanList xs) (i : Nat) : ErrFree (xs.getD i .null) := by
  rw [List.getD_eq_getElem?_getD]
  cases hi : xs[i]? with
  | none => exact errFree_null
  | some v => exact h v (List.mem_of_getElem? hi)

mutual
theorem applyIdx_errFree (values : List ETree) (hv : CleanList values) (b : ETree) (hb : ErrFree b)
    (ix : Index) : ErrFree (applyIdx values b ix) := by
  cases ix with
  | leaf i => exact cleanList_getD hv i
  | node kids =>
    exact errFree_obj.mpr (applyKids_clean values hv (kvsOf b) (cleanKvs_kvsOf hb) kids _ (cleanKvs_kvsOf hb))
theorem applyKids_clean (values : List ETree) (hv : CleanList values) (base : List (EKey × ETree))
    (hb : CleanKvs base) (kids : List (String × Index)) (acc : List (EKey × ETree)) (ha : CleanKvs acc) :
    CleanKvs (applyKids values base kids acc) := by
  cases kids with
  | nil => exact ha
  | cons kix rest =>
    obtain ⟨k, ix⟩ := kix
    simp only [applyKids]
    apply applyKids_clean values hv base hb rest
    apply cleanKvs_insert ha (k := .str k) nofun
    exact applyIdx_errFree values hv _ (errFree_lookup_getD hb errFree_null) ix
end

theorem applier_errFree {base : ETree} (hb : ErrFree base) (index : List (String × Index)) {values : List ETree}
    (hv : CleanList values) : ErrFree (applier base index values) :=
  applyIdx_errFree values hv base hb (.node index)

mutual
theorem deepOverlay_errFree (r : ETree) (hr : ErrFree r) (o : ETree) (ho : ErrFree o) :
    ErrFree (deepOverlay r o) := by
  cases o with
  | obj okvs =>
    exact errFree_obj.mpr
      (deepOverlayO_clean (kvsOf r) (cleanKvs_kvsOf hr) okvs (errFree_obj.mp ho))
  | _ => exact ho
theorem deepOverlayO_clean (res : List (EKey × ETree)) (hr : CleanKvs res)
    (okvs : List (EKey × ETree)) (ho : CleanKvs okvs) : CleanKvs (deepOverlayO res okvs) := by
  cases okvs with
  | nil => exact hr
  | cons kv rest =>
    obtain ⟨k, ov⟩ := kv
    rw [cleanKvs_cons] at ho
    simp only [deepOverlayO]
    apply deepOverlayO_clean _ _ rest ho.2
    apply cleanKvs_insert hr ho.1.1
    -- what is stored under `k`: the two maps merged, or the overlay's value as it is
    cases ov with
    | obj okv =>
      split
      next rkvs _ hl =>
        exact deepOverlay_errFree (.obj rkvs) (cleanKvs_lookup hr hl) (.obj okv) ho.1.2
      · exact ho.1.2
    | _ => exact ho.1.2
end

mutual
theorem convert_errFree (t : ETree) (h : ErrFree t) : ErrFree (convert t) := by
  cases t with
  | arr xs => exact errFree_arr.mpr (convertL_clean xs (errFree_arr.mp h))
  | obj kvs => exact errFree_obj.mpr (convertO_clean kvs (errFree_obj.mp h))
  | _ => exact h
theorem convertL_clean (xs : List ETree) (h : CleanList xs) : CleanList (convertL xs) := by
  cases xs with
  | nil => exact h
  | cons x xs =>
    rw [cleanList_cons] at h
    exact cleanList_cons.mpr ⟨convert_errFree x h.1, convertL_clean xs h.2⟩
theorem convertO_clean (kvs : List (EKey × ETree)) (h : CleanKvs kvs) : CleanKvs (convertO kvs) := by
  cases kvs with
  | nil => exact h
  | cons kv rest =>
    obtain ⟨k, v⟩ := kv
    rw [cleanKvs_cons] at h
    exact cleanKvs_cons.mpr ⟨⟨h.1.1, convert_errFree v h.1.2⟩, convertO_clean rest h.2⟩
end

mutual
theorem stripE_errFree (t : ETree) (h : ErrFree t) : ErrFree (stripE t) := by
  cases t with
  | arr xs => exact errFree_arr.mpr (stripEL_clean xs (errFree_arr.mp h))
  | obj kvs => exact errFree_obj.mpr (stripEO_clean kvs (errFree_obj.mp h))
  | _ => exact h
theorem stripEL_clean (xs : List ETree) (h : CleanList xs) : CleanList (stripEL xs) := by
  cases xs with
  | nil => exact h
  | cons x xs =>
    rw [cleanList_cons] at h
    exact cleanList_cons.mpr ⟨stripE_errFree x h.1, stripEL_clean xs h.2⟩
theorem stripEO_clean (kvs : List (EKey × ETree)) (h : CleanKvs kvs) : CleanKvs (stripEO kvs) := by
  cases kvs with
  | nil => exact h
  | cons kv rest =>
    obtain ⟨k, v⟩ := kv
    rw [cleanKvs_cons] at h
    simp only [stripEO]
    split
    · exact stripEO_clean rest h.2
    · exact cleanKvs_cons.mpr ⟨⟨h.1.1, stripE_errFree v h.1.2⟩, stripEO_clean rest h.2⟩
end

theorem prepareForApi_errFree (render : ETree → String) (t : ETree) (h : ErrFree t) (p : ETree)
    (hp : prepareForApi render t = some p) : ErrFree p := by
  have hs := stripE_errFree t h
  revert hp
  fun_cases prepareForApi render t with
  | case2 _ _ _ _ md hmd ann hann =>
    -- the one exit that answers `some`: `metadata` is a map `md`, its `annotations` a map `ann`
    intro hp; cases hp
    have hmd : ErrFree (.obj md) := hmd ▸ errFree_lookup_getD (cleanKvs_kvsOf hs) errFree_emptyObj
    have hann : ErrFree (.obj ann) := hann ▸ errFree_lookup_getD (errFree_obj.mp hmd) errFree_emptyObj
    exact hs.kvsOf.insert _ (hmd.insert _ (hann.insert _ (errFree_str _)))
  | _ => nofun

mutual
theorem embed_errFree (j : JVal) : ErrFree (embed j) := by
  cases j with
  | arr xs => exact errFree_arr.mpr (embedL_clean xs)
  | obj kvs => exact errFree_obj.mpr (embedO_clean kvs)
  | _ => exact scan_false_iff.mp rfl
theorem embedL_clean (xs : List JVal) : CleanList (embedL xs) := by
  cases xs with
  | nil => exact cleanList_nil
  | cons x xs => exact cleanList_cons.mpr ⟨embed_errFree x, embedL_clean xs⟩
theorem embedO_clean (kvs : List (String × JVal)) : CleanKvs (embedO kvs) := by
  cases kvs with
  | nil => exact cleanKvs_nil
  | cons kv rest => exact cleanKvs_cons.mpr ⟨⟨nofun, embed_errFree kv.2⟩, embedO_clean rest⟩
end

mutual
theorem stripE_embed (j : JVal) : stripE (embed j) = embed (strip j) := by
  cases j with
  | arr xs => exact congrArg ETree.arr (stripEL_embed xs)
  | obj kvs => exact congrArg ETree.obj (stripEO_embed kvs)
  | _ => rfl
theorem stripEL_embed (xs : List JVal) : stripEL (embedL xs) = embedL (stripL xs) := by
  cases xs with
  | nil => rfl
  | cons x xs => simp only [embedL, stripEL, stripL]; rw [stripE_embed x, stripEL_embed xs]
theorem stripEO_embed (kvs : List (String × JVal)) : stripEO (embedO kvs) = embedO (stripO kvs) := by
  cases kvs with
  | nil => rfl
  | cons kv rest =>
    obtain ⟨k, v⟩ := kv
    by_cases hd : isDirective k = true
    · simp only [embedO, stripEO, stripO, isDirectiveKey, hd, if_true]
      exact stripEO_embed rest
    · simp only [embedO, stripEO, stripO, isDirectiveKey, hd]
      rw [stripE_embed v, stripEO_embed rest]; rfl
end

/-- how the theorems about the forced overlay say "the same map except for the value under `k`" -/
def blankAt (k : EKey) (x : ETree) : List (EKey × ETree) → List (EKey × ETree)
  | [] => []
  | (k', v) :: rest => if k' = k then (k', x) :: rest else (k', v) :: blankAt k x rest

theorem lookup_blankAt_ne {k k2 : EKey} (h : k2 ≠ k) (x : ETree) (res : List (EKey × ETree)) :
    lookup k2 (blankAt k x res) = lookup k2 res := by
  -- no binding; the head binds `k`; the head binds another key (the same three cases in the lemmas below)
  fun_induction blankAt k x res with
  | case1 => rfl
  | case2 => simp [lookup, Ne.symm h]
  | case3 _ _ _ _ ih => simp [lookup, ih]

theorem insert_blankAt_ne {k k2 : EKey} (h : k2 ≠ k) (x nv : ETree) (res : List (EKey × ETree)) :
    insert k2 nv (blankAt k x res) = blankAt k x (insert k2 nv res) := by
  fun_induction blankAt k x res with
  | case1 => simp [blankAt, ETree.insert, h]
  | case2 => simp [blankAt, ETree.insert, Ne.symm h]
  | case3 k' _ _ hk ih =>
    by_cases hk2 : k' = k2
    · subst hk2; simp [blankAt, ETree.insert, hk]
    · simp [blankAt, ETree.insert, hk, hk2, ih]

theorem insert_blankAt_same (k : EKey) (x ov : ETree) (res : List (EKey × ETree)) :
    insert k ov (blankAt k x res) = insert k ov res := by
  fun_induction blankAt k x res with
  | case1 => rfl
  | case2 => simp [ETree.insert]
  | case3 _ _ _ hk ih => simp [ETree.insert, hk, ih]

theorem deepOverlayO_blankAt {k : EKey} {ov : ETree} (hov : ∀ kvs, ov ≠ .obj kvs) {okvs : List (EKey × ETree)}
    (h : lookup k okvs = some ov) (x : ETree) (res : List (EKey × ETree)) :
    deepOverlayO (blankAt k x res) okvs = deepOverlayO res okvs := by
  fun_induction lookup k okvs generalizing res with
  | case1 => cases h
  | case2 =>
    cases h
    cases ov with
    | obj kvs => exact absurd rfl (hov kvs)
    | _ => simp [deepOverlayO, insert_blankAt_same]
  | case3 _ _ _ hk ih =>
    simp only [deepOverlayO, lookup_blankAt_ne hk, insert_blankAt_ne hk]
    exact ih h _

theorem blankAt_hasErr {k : EKey} {e v : ETree} {kvs : List (EKey × ETree)}
    (hl : lookup k kvs = some v) (he : HasErr e) : HasErr (.obj (blankAt k e kvs)) := by
  have hmem : (k, e) ∈ blankAt k e kvs := by
    fun_induction blankAt k e kvs with
    | case1 => cases hl
    | case2 => exact List.mem_cons_self
    | case3 _ _ _ hk ih => exact List.mem_cons_of_mem _ (ih (by simpa [lookup, hk] using hl))
  exact HasErr.value hmem he

namespace Run

@[simp] theorem pure_evals (a : α) : (pure a : Run α).evals = [] := rfl
@[simp] theorem pure_outs (a : α) : (pure a : Run α).outs = [] := rfl
@[simp] theorem pure_res (a : α) : (pure a : Run α).res = .ok a := rfl

theorem bind_def (m : Run α) (f : α → Run β) : (m >>= f) = bind' m f := rfl

theorem bind_ok {m : Run α} {a : α} (h : m.res = .ok a) (f : α → Run β) :
    m >>= f = ⟨m.evals ++ (f a).evals, m.outs ++ (f a).outs, (f a).res⟩ := by
  simp only [bind_def, bind', h]

theorem bind_error {m : Run α} {e : Stop} (h : m.res = .error e) (f : α → Run β) :
    m >>= f = ⟨m.evals, m.outs, .error e⟩ := by
  simp only [bind_def, bind', h]

theorem attempt_evals (m : Run α) : (attempt m).evals = m.evals := rfl
theorem attempt_outs (m : Run α) : (attempt m).outs = m.outs := rfl
theorem attempt_res (m : Run α) : (attempt m).res = .ok m.res := rfl

/-- `located` allows at most one failed evaluation in a run: a program that goes on after a failed site is not a
    `Sat`; it needs `WSat`, or `attempt` around the part that may fail -/
structure Sat (eval : Oracle) (m : Run α) (P : α → Prop) : Prop where
  faithful : ∀ e ∈ m.evals, e.2 = eval e.1
  located : ∀ e ∈ m.evals, e.2.bad = true → m.res = .error (.permFail e.1 .evalError)
  outs : ∀ o ∈ m.outs, ErrFree o.2
  post : ∀ a, m.res = .ok a → P a

/-- above the Function level the location is given up: with several failing iterations the PermFail names one of them -/
structure WSat (eval : Oracle) (m : Run α) (P : α → Prop) : Prop where
  faithful : ∀ e ∈ m.evals, e.2 = eval e.1
  contained : ∀ e ∈ m.evals, e.2.bad = true → ∃ l w, m.res = .error (.permFail l w)
  outs : ∀ o ∈ m.outs, ErrFree o.2
  post : ∀ a, m.res = .ok a → P a

theorem Sat.weak {eval : Oracle} {m : Run α} {P : α → Prop} (h : Sat eval m P) : WSat eval m P :=
  ⟨h.faithful, fun e he hb => ⟨_, _, h.located e he hb⟩, h.outs, h.post⟩

theorem Sat.pure {eval : Oracle} {a : α} {P : α → Prop} (h : P a) : Sat eval (pure a : Run α) P :=
  ⟨List.forall_mem_nil _, List.forall_mem_nil _, List.forall_mem_nil _, fun _ hb => by cases hb; exact h⟩

theorem Sat.fail {eval : Oracle} {st : Stop} {P : α → Prop} : Sat eval (fail st : Run α) P :=
  ⟨List.forall_mem_nil _, List.forall_mem_nil _, List.forall_mem_nil _, nofun⟩

theorem Sat.emit {eval : Oracle} (o : Out) {t : ETree} (h : ErrFree t) : Sat eval (emit o t) (fun _ => True) :=
  ⟨List.forall_mem_nil _, List.forall_mem_nil _, List.forall_mem_singleton.mpr h, fun _ _ => trivial⟩

theorem Sat.mono {eval : Oracle} {m : Run α} {P Q : α → Prop} (h : Sat eval m P) (hpq : ∀ a, P a → Q a) :
    Sat eval m Q :=
  ⟨h.faithful, h.located, h.outs, fun a ha => hpq a (h.post a ha)⟩

/-- the reconcilers' guards and, with `c := scan r` and `m := pure r`, their re-scans -/
theorem Sat.guard {eval : Oracle} {c : Prop} [Decidable c] {st : Stop} {m : Run α} {P : α → Prop}
    (h : Sat eval m P) : Sat eval (if c then Run.fail st else m) P := by
  split
  · exact Sat.fail
  · exact h

theorem WSat.bind {eval : Oracle} {m : Run α} {f : α → Run β} {P : α → Prop} {Q : β → Prop}
    (hm : WSat eval m P) (hf : ∀ a, P a → WSat eval (f a) Q) : WSat eval (m >>= f) Q := by
  cases hres : m.res with
  | error e =>
    rw [bind_error hres]
    refine ⟨hm.faithful, fun ev hev hbad => ?_, hm.outs, nofun⟩
    obtain ⟨l, w, h⟩ := hm.contained ev hev hbad
    -- the same Stop, re-typed from `Run α` to `Run β`
    exact ⟨l, w, congrArg Except.error (Except.error.inj (hres.symm.trans h))⟩
  | ok a =>
    have hfa := hf a (hm.post a hres)
    rw [bind_ok hres]
    refine ⟨List.forall_mem_append.mpr ⟨hm.faithful, hfa.faithful⟩,
      List.forall_mem_append.mpr ⟨fun ev hev hbad => ?_, hfa.contained⟩,
      List.forall_mem_append.mpr ⟨hm.outs, hfa.outs⟩, hfa.post⟩
    obtain ⟨l, w, h⟩ := hm.contained ev hev hbad
    rw [hres] at h; cases h

theorem Sat.bind {eval : Oracle} {m : Run α} {f : α → Run β} {P : α → Prop} {Q : β → Prop}
    (hm : Sat eval m P) (hf : ∀ a, P a → Sat eval (f a) Q) : Sat eval (m >>= f) Q := by
  have w := WSat.bind hm.weak fun a h => (hf a h).weak
  refine ⟨w.faithful, ?_, w.outs, w.post⟩
  -- the location is kept because the failed evaluation was logged by the side that stopped
  cases hres : m.res with
  | error e =>
    rw [bind_error hres]
    -- the same Stop, re-typed from `Run α` to `Run β`
    exact fun ev hev hbad => congrArg Except.error (Except.error.inj (hres.symm.trans (hm.located ev hev hbad)))
  | ok a =>
    rw [bind_ok hres]
    refine List.forall_mem_append.mpr ⟨fun ev hev hbad => ?_, (hf a (hm.post a hres)).located⟩
    have h := hm.located ev hev hbad
    rw [hres] at h; cases h

/-- for what runs to its end whatever happens; nothing is owed for a failed evaluation here: under `attempt` it is
    recorded in the value, not answered by the result -/
structure Done (m : Run α) (P : α → Prop) : Prop where
  outs : ∀ o ∈ m.outs, ErrFree o.2
  ok : ∃ a, m.res = .ok a ∧ P a

theorem Done.pure {a : α} {P : α → Prop} (h : P a) : Done (pure a : Run α) P :=
  ⟨List.forall_mem_nil _, a, rfl, h⟩

theorem Done.emit (o : Out) {t : ETree} (h : ErrFree t) : Done (emit o t) (fun _ => True) :=
  ⟨List.forall_mem_singleton.mpr h, (), rfl, trivial⟩

theorem Done.bind {m : Run α} {f : α → Run β} {P : α → Prop} {Q : β → Prop}
    (hm : Done m P) (hf : ∀ a, P a → Done (f a) Q) : Done (m >>= f) Q := by
  obtain ⟨a, ha, hp⟩ := hm.ok
  rw [bind_ok ha]
  exact ⟨List.forall_mem_append.mpr ⟨hm.outs, (hf a hp).outs⟩, (hf a hp).ok⟩

theorem WSat.attempt {eval : Oracle} {m : Run α} {P : α → Prop} (h : WSat eval m P) :
    Done (attempt m) (fun r => ∀ a, r = .ok a → P a) :=
  ⟨h.outs, m.res, rfl, h.post⟩

/-- the shape of `stepRun`'s continuation: `state`, then the body's value handed back -/
theorem bind_res_of_done {m : Run α} {f : α → Run α} (hf : ∀ a, Done (f a) (· = a)) : (m >>= f).res = m.res := by
  cases hres : m.res with
  | error e => rw [bind_error hres]
  | ok a =>
    obtain ⟨_, h, rfl⟩ := (hf a).ok
    rw [bind_ok hres, h]

end Run

theorem site_of_bad {eval : Oracle} {s : Site} (h : (eval s).bad = true) :
    site eval s = ⟨[(s, eval s)], [], .error (.permFail s .evalError)⟩ := by
  fun_cases site eval s with
  | case1 he | case2 _ he => rw [he]
  | case3 t he hs => rw [he] at h; exact absurd h hs

theorem Run.Sat.site (eval : Oracle) (s : Site) : Sat eval (site eval s) ErrFree := by
  -- celpy raised; it answered a value with an error object; it answered a clean value
  fun_cases EvalScan.site eval s with
  | case1 he | case2 _ he =>
    exact ⟨List.forall_mem_singleton.mpr he.symm, List.forall_mem_singleton.mpr fun _ => rfl, List.forall_mem_nil _,
      nofun⟩
  | case3 t he hs =>
    refine ⟨List.forall_mem_singleton.mpr he.symm, List.forall_mem_singleton.mpr fun hb => absurd hb hs,
      List.forall_mem_nil _, fun _ h => ?_⟩
    cases h
    exact scan_false_iff.mp (Bool.not_eq_true _ ▸ hs)

theorem siteOpt_sat (eval : Oracle) {s : Site} {present : Bool} : Sat eval (siteOpt eval s present) ErrFree := by
  fun_cases siteOpt eval s present
  · exact Sat.site eval s
  · exact Sat.pure errFree_null

theorem evalPredicates_sat (eval : Oracle) (interp : Interp) {s : Site} {present : Bool} :
    Sat eval (evalPredicates eval interp s present) (fun _ => True) := by
  fun_cases evalPredicates eval interp s present
  · apply Sat.bind (Sat.site eval s)
    intro t _
    split
    · split
      · exact Sat.fail
      · exact Sat.pure trivial
    · exact Sat.fail
  · exact Sat.pure trivial

theorem evalOverlay_sat (eval : Oracle) {s : Site} {index : List (String × Index)} {base : ETree}
    (hb : ErrFree base) : Sat eval (evalOverlay eval s index base) ErrFree := by
  unfold evalOverlay
  apply Sat.bind (Sat.site eval s)
  intro vs hvs
  split
  next values =>
    exact Sat.pure (applier_errFree hb index (errFree_arr.mp hvs))
  · exact Sat.fail

/-- stated on the conditional as it occurs in `vfRun` and `rfRun` (locals, when there are any, must be a map) -/
theorem expectMap_sat {eval : Oracle} {c : Bool} {s : Site} {t : ETree} :
    Sat eval (if c = true then expectMap s t else pure t) (fun _ => True) := by
  split
  · fun_cases expectMap s t
    · exact Sat.pure trivial
    · exact Sat.fail
  · exact Sat.pure trivial

theorem vfRun_sat (eval : Oracle) (interp : Interp) (loc : VfSite → Site) (f : VF) (base : Option ETree)
    (hb : ∀ b, base = some b → ErrFree b) : Sat eval (vfRun eval interp loc f base) ErrFree := by
  unfold vfRun
  apply Sat.bind (evalPredicates_sat eval interp)
  intro _ _
  split
  · exact Sat.pure errFree_null
  · apply Sat.bind (siteOpt_sat eval)
    intro l _
    apply Sat.bind expectMap_sat
    intro _ _
    apply evalOverlay_sat eval
    cases base with
    | none => exact errFree_emptyObj
    | some b => exact hb b rfl

theorem forcedOverlay_errFree (env : Env) (name : String) (ns : Option String) :
    ErrFree (forcedOverlay env name ns) := by
  cases ns <;> exact scan_false_iff.mp rfl

theorem overlayForced_sat {eval : Oracle} {s : Site} {t forced : ETree} (ht : ErrFree t) (hf : ErrFree forced) :
    Sat eval (overlayForced s t forced) ErrFree :=
  Sat.guard (Sat.pure (deepOverlay_errFree t ht forced hf))

theorem overlayForced_of_errFree (s : Site) {t forced : ETree} (h : ErrFree (deepOverlay t forced)) :
    overlayForced s t forced = pure (deepOverlay t forced) :=
  if_neg (Bool.eq_false_iff.mp (scan_false_iff.mpr h))

theorem constructTemplate_sat (eval : Oracle) (loc : Site → Site) (f : RF) (env : Env) (forced : ETree)
    (henv : env.Clean) (hf : ErrFree forced) : Sat eval (constructTemplate eval loc f env forced) ErrFree := by
  -- no template; `resourceTemplateRef`; inline `resource`
  fun_cases constructTemplate eval loc f env forced
  · exact Sat.pure hf
  · apply Sat.bind (Sat.site eval _)
    intro n _
    split
    · split
      next t ht =>
        exact overlayForced_sat (henv.templates _ _ ht) hf
      · exact Sat.fail
    · exact Sat.fail
  · apply Sat.bind (siteOpt_sat eval)
    intro t ht
    split
    · exact overlayForced_sat ht hf
    · split
      · exact Sat.fail
      · exact overlayForced_sat errFree_emptyObj hf
    · exact Sat.fail

/-- The program is stated literally: the models have no name for it, it is the block that occurs verbatim
    twice in `overlayStep` and once in `stepBody`, and it has to match those occurrences up to unfolding. -/
theorem skipIf_sat (eval : Oracle) {s : Site} {hasSkipIf : Bool} :
    Sat eval (if hasSkipIf = true then do
      let v ← site eval s
      match v with
      | .bool b => pure b
      | _ => fail (.permFail s .badType)
      else pure false : Run Bool) (fun _ => True) := by
  split
  · apply Sat.bind (Sat.site eval s)
    intro v _
    split
    · exact Sat.pure trivial
    · exact Sat.fail
  · exact Sat.pure trivial

theorem overlayStep_sat (eval : Oracle) (interp : Interp) (loc : Site → Site) (i : Nat) (res : ETree)
    (hr : ErrFree res) (st : OverlayStep) : Sat eval (overlayStep eval interp loc i res st) ErrFree := by
  fun_cases overlayStep eval interp loc i res st with
  | case1 hasSkipIf index =>  -- an inline overlay
    apply Sat.bind (skipIf_sat eval)
    intro skip _
    split
    · exact Sat.pure hr
    · apply Sat.bind (evalOverlay_sat eval hr)
      exact fun r hr' => Sat.guard (Sat.pure hr')
  | case2 hasSkipIf hasInputs vf =>  -- an `overlayRef`: the ValueFunction's return is the overlay
    apply Sat.bind (skipIf_sat eval)
    intro skip _
    split
    · exact Sat.pure hr
    · apply Sat.bind (siteOpt_sat eval)
      intro _ _
      apply Sat.bind (vfRun_sat eval interp _ vf (some res) (by intro b hb; cases hb; exact hr))
      intro r hr'
      split
      · exact Sat.guard (Sat.pure hr')
      · exact Sat.fail

theorem overlaysLoop_sat (eval : Oracle) (interp : Interp) (loc : Site → Site) (i : Nat) (res : ETree)
    (hr : ErrFree res) (steps : List OverlayStep) : Sat eval (overlaysLoop eval interp loc i res steps) ErrFree := by
  fun_induction overlaysLoop eval interp loc i res steps with
  | case1 => exact Sat.pure hr
  | case2 i res st rest ih => exact (overlayStep_sat eval interp loc i res hr st).bind ih

theorem withOwner_errFree {ownerRef src view v : ETree} (ho : ErrFree ownerRef) (hs : ErrFree src)
    (hv : ErrFree view) (h : withOwner ownerRef src view = some v) : ErrFree v := by
  unfold withOwner at h
  split at h
  next smd md hsmd hmd =>
    cases h
    refine hv.kvsOf.insert _ ((hv.kvsOf.lookup hmd).insert _ (errFree_arr.mpr ?_))
    have ho' : CleanList [ownerRef] := List.forall_mem_singleton.mpr ho
    split
    next xs hxs =>
      exact List.forall_mem_append.mpr ⟨errFree_arr.mp ((hs.kvsOf.lookup hsmd).lookup hxs), ho'⟩
    · exact ho'
  · cases h

theorem dropOwnerRefs_errFree (view : ETree) (hv : ErrFree view) : ErrFree (dropOwnerRefs view) := by
  fun_cases dropOwnerRefs view with
  | case1 md hmd => exact hv.kvsOf.insert _ ((hv.kvsOf.lookup hmd).erase _)
  | case2 => exact hv

theorem sendPrepared_sat {eval : Oracle} (env : Env) (o : Out) (view : ETree) (hv : ErrFree view) :
    Sat eval (sendPrepared env o view) (fun _ => True) := by
  fun_cases sendPrepared env o view with
  | case1 body hb => exact Sat.emit o (prepareForApi_errFree env.render _ (convert_errFree view hv) body hb)
  | case2 => exact Sat.fail

theorem createPath_sat (eval : Oracle) (loc : Site → Site) (f : RF) (env : Env) (expected forced : ETree)
    (henv : env.Clean) (he : ErrFree expected) (hf : ErrFree forced) :
    Sat eval (createPath eval loc f env expected forced) ErrFree := by
  unfold createPath
  apply Sat.bind (P := ErrFree)
  · split
    · apply Sat.bind (evalOverlay_sat eval he)
      exact fun v hv => Sat.guard (Sat.pure hv)
    · exact Sat.pure he
  · intro view hview
    apply Sat.bind (overlayForced_sat hview hf)
    intro view hview
    apply Sat.bind (P := ErrFree)
    · split
      · split
        next v hv =>
          exact Sat.pure (withOwner_errFree henv.ownerRef hview hview hv)
        · exact Sat.fail
      · exact Sat.pure hview
    · intro view hview
      exact (sendPrepared_sat env .post view hview).bind fun _ _ => Sat.fail

theorem updatePath_sat {eval : Oracle} (f : RF) (env : Env) (loc : Site → Site) (live expected : ETree)
    (henv : env.Clean) (hl : ErrFree live) (he : ErrFree expected) :
    Sat eval (updatePath f env loc live expected) ErrFree := by
  -- nothing to do; update `never`; `recreate`; `patch`
  fun_cases updatePath f env loc live expected
  · exact Sat.pure hl
  · exact Sat.pure hl
  · exact (Sat.emit .delete errFree_null).bind fun _ _ => Sat.fail
  · apply Sat.bind (P := ErrFree)
    · split
      · split
        next v hv =>
          exact Sat.pure (withOwner_errFree henv.ownerRef hl (convert_errFree _ he) hv)
        · exact Sat.fail
      · exact Sat.pure (dropOwnerRefs_errFree _ (convert_errFree _ he))
    · intro body hbody
      exact (sendPrepared_sat env .patch body hbody).bind fun _ _ => Sat.fail

theorem krmBody_sat (eval : Oracle) (interp : Interp) (loc : Site → Site) (f : RF) (env : Env)
    (henv : env.Clean) (name : String) (ns : Option String) :
    Sat eval (krmBody eval interp loc f env name ns) ErrFree := by
  have hforced := forcedOverlay_errFree env name ns
  fun_cases krmBody eval interp loc f env name ns
  · exact Sat.fail                                                     -- no namespace for a namespaced kind
  · exact Sat.pure errFree_emptyObj                                    -- deleteIfExists, nothing there
  · exact (Sat.emit .delete errFree_null).bind fun _ _ => Sat.fail     -- deleteIfExists, delete it
  · exact Sat.fail                                                     -- absent and not to be created
  next live _ hlive => exact Sat.pure (henv.live live hlive)           -- read-only: the live object
  -- what is left: build the expected object, then create or update
  apply Sat.bind (constructTemplate_sat eval loc f env _ henv hforced)
  intro expected hexp
  apply Sat.bind (P := ErrFree)
  · split
    · exact Sat.pure hexp
    · apply Sat.bind (overlaysLoop_sat eval interp loc 0 expected hexp _)
      exact fun r hr => overlayForced_sat hr hforced
  · intro expected hexp
    split
    · exact createPath_sat eval loc f env expected _ henv hexp hforced
    next live hlive =>
      exact updatePath_sat f env loc live expected henv (henv.live live hlive) hexp

theorem krm_sat (eval : Oracle) (interp : Interp) (loc : Site → Site) (f : RF) (env : Env)
    (henv : env.Clean) : Sat eval (krm eval interp loc f env) ErrFree := by
  unfold krm
  apply Sat.bind (Sat.site eval _)
  intro id _
  apply Sat.bind (P := fun _ => True)
  · split
    · exact Sat.pure trivial
    · exact Sat.fail
  · intro nameV _
    exact krmBody_sat eval interp loc f env henv _ _

theorem rfRun_sat (eval : Oracle) (interp : Interp) (loc : Site → Site) (f : RF) (env : Env)
    (henv : env.Clean) : Sat eval (rfRun eval interp loc f env) ErrFree := by
  unfold rfRun
  apply Sat.bind (evalPredicates_sat eval interp)
  intro _ _
  apply Sat.bind (siteOpt_sat eval)
  intro l _
  apply Sat.bind expectMap_sat
  intro _ _
  apply Sat.bind (krm_sat eval interp loc f env henv)
  intro _ _
  apply Sat.bind (evalPredicates_sat eval interp)
  intro _ _
  exact siteOpt_sat eval

def Fn.Clean : Fn → Prop
  | .vf _ => True
  | .rf _ env => env.Clean

def Logic.Clean : Logic → Prop
  | .fn f => f.Clean
  | .switch pick => ∀ v f, pick v = some f → f.Clean

theorem runFn_sat (eval : Oracle) (interp : Interp) (loc : Site → Site) (f : Fn) (hf : f.Clean) :
    Sat eval (runFn eval interp loc f) ErrFree := by
  fun_cases runFn eval interp loc f with
  | case1 f => exact vfRun_sat eval interp _ f none nofun
  | case2 f env => exact rfRun_sat eval interp loc f env hf

theorem runLogic_sat (eval : Oracle) (interp : Interp) (loc : Site → Site) (inputs : ETree)
    (hin : ErrFree inputs) (l : Logic) (hl : l.Clean) : Sat eval (runLogic eval interp loc inputs l) ErrFree := by
  have hfn : ∀ f : Fn, f.Clean → Sat eval (do emit .fnInputs inputs; runFn eval interp loc f) ErrFree :=
    fun f hf => (Sat.emit .fnInputs hin).bind fun _ _ => runFn_sat eval interp loc f hf
  fun_cases runLogic eval interp loc inputs l with
  | case1 f => exact hfn f hl
  | case2 pick =>
    apply Sat.bind (Sat.site eval _)
    intro v _
    split
    · split
      next f hf => exact hfn f (hl _ f hf)
      · exact Sat.fail
    · split
      next f hf => exact hfn f (hl _ f hf)
      · exact Sat.fail
    · exact Sat.fail

/-- the forEach loop always completes; a failed evaluation shows as a PermFail member of the result list, not as the
    run's result -/
structure IterSpec (eval : Oracle) (m : Run (List (Except Stop ETree))) : Prop where
  faithful : ∀ e ∈ m.evals, e.2 = eval e.1
  completes : ∃ rs, m.res = .ok rs
  values : ∀ rs, m.res = .ok rs → ∀ v, Except.ok v ∈ rs → ErrFree v
  contained : ∀ rs, m.res = .ok rs → ∀ e ∈ m.evals, e.2.bad = true → ∃ l w, Except.error (Stop.permFail l w) ∈ rs
  outs : ∀ o ∈ m.outs, ErrFree o.2

theorem iterations_spec (eval : Oracle) (interp : Interp) (loc : Site → Site) (key : String) (inputs : ETree)
    (hin : ErrFree inputs) (logic : Logic) (hl : logic.Clean) (j : Nat) (items : List ETree)
    (hitems : CleanList items) : IterSpec eval (iterations eval interp loc key inputs logic j items) := by
  fun_induction iterations eval interp loc key inputs logic j items with
  | case1 =>
    exact ⟨List.forall_mem_nil _, ⟨[], rfl⟩, fun rs h v hv => (by cases h; cases hv), fun rs h e he => (nomatch he),
      List.forall_mem_nil _⟩
  | case2 j item rest ih =>
    rw [cleanList_cons] at hitems
    have hrest := ih hitems.2
    have hone := runLogic_sat eval interp (fun s => loc (.iter j s)) _ (hin.kvsOf.insert key hitems.1) logic hl
    obtain ⟨rs, hrs⟩ := hrest.completes
    rw [bind_ok (attempt_res _), bind_ok hrs]
    simp only [attempt_evals, attempt_outs, pure_evals, pure_outs, pure_res, List.append_nil]
    refine ⟨List.forall_mem_append.mpr ⟨hone.faithful, hrest.faithful⟩, ⟨_, rfl⟩, ?_, ?_,
      List.forall_mem_append.mpr ⟨hone.outs, hrest.outs⟩⟩
    · intro rs' h v hv
      cases h
      rcases List.mem_cons.mp hv with hv | hv
      · exact hone.post v hv.symm
      · exact hrest.values rs hrs v hv
    · intro rs' h
      cases h
      refine List.forall_mem_append.mpr ⟨fun e he hbad => ?_, fun e he hbad => ?_⟩
      · exact ⟨_, _, by rw [← hone.located e he hbad]; exact List.mem_cons_self⟩
      · obtain ⟨l, w, hm⟩ := hrest.contained rs hrs e he hbad
        exact ⟨l, w, List.mem_cons_of_mem _ hm⟩

theorem firstError_permFail (rs : List (Except Stop ETree))
    (h : ∃ l w, Except.error (Stop.permFail l w) ∈ rs) : ∃ l w, firstError rs = some (.permFail l w) := by
  induction rs with
  | nil => obtain ⟨l, w, h⟩ := h; cases h
  | cons r rest ih =>
    obtain ⟨l, w, hm⟩ := h
    rcases List.mem_cons.mp hm with hm | hm
    · subst hm; exact ⟨l, w, by simp [firstError]⟩
    · obtain ⟨l', w', h'⟩ := ih ⟨l, w, hm⟩
      cases r with
      | ok v => exact ⟨l', w', by simp [firstError, h']⟩
      | error e =>
        cases e with
        | permFail l2 w2 => exact ⟨l2, w2, by simp [firstError]⟩
        | _ => exact ⟨l', w', by simp [firstError, h']⟩

theorem encodeOutcome_clean (rs : List (Except Stop ETree)) (h : ∀ v, Except.ok v ∈ rs → ErrFree v) :
    CleanList (rs.map encodeOutcome) := by
  intro x hx
  obtain ⟨r, hr, rfl⟩ := List.mem_map.mp hx
  cases r with
  | ok v => exact h v hr
  | error e => exact errFree_str _

theorem forEach_wsat (eval : Oracle) (interp : Interp) (loc : Site → Site) (key : String) (inputs : ETree)
    (hin : ErrFree inputs) (logic : Logic) (hl : logic.Clean) (items : List ETree) (hitems : CleanList items) :
    WSat eval (do
      let rs ← iterations eval interp loc key inputs logic 0 items
      match firstError rs with
      | some e => fail e
      | none => pure (.arr (rs.map encodeOutcome))) ErrFree := by
  have hspec := iterations_spec eval interp loc key inputs hin logic hl 0 items hitems
  obtain ⟨rs, hrs⟩ := hspec.completes
  have hpf := fun ev hev hbad => firstError_permFail rs (hspec.contained rs hrs ev hev hbad)
  rw [bind_ok hrs]
  cases hfe : firstError rs with
  | some e =>
    simp only [Run.fail, List.append_nil]
    exact ⟨hspec.faithful, fun ev hev hbad => by simpa [hfe] using hpf ev hev hbad, hspec.outs, nofun⟩
  | none =>
    simp only [pure_evals, pure_outs, pure_res, List.append_nil]
    refine ⟨hspec.faithful, fun ev hev hbad => ?_, hspec.outs, fun a ha => ?_⟩
    · simpa [hfe] using hpf ev hev hbad
    · cases ha
      exact errFree_arr.mpr (encodeOutcome_clean rs (hspec.values rs hrs))

theorem stepBody_wsat (eval : Oracle) (interp : Interp) (loc : Site → Site) (st : Step) (hl : st.logic.Clean) :
    WSat eval (stepBody eval interp loc st) ErrFree := by
  unfold stepBody
  apply WSat.bind (P := ErrFree)
  · split
    · exact (Sat.site eval _).weak
    · exact (Sat.pure errFree_emptyObj).weak
  · intro inputs hin
    apply WSat.bind (skipIf_sat eval).weak
    intro skip _
    split
    · exact Sat.fail.weak
    · split
      · exact (runLogic_sat eval interp loc inputs hin st.logic hl).weak
      next key _ =>
        apply WSat.bind (Sat.site eval _).weak
        intro src hsrc
        split
        · exact (Sat.pure (errFree_arr.mpr cleanList_nil)).weak
        · exact forEach_wsat eval interp loc key inputs hin st.logic hl _ (errFree_arr.mp hsrc)
        · exact Sat.fail.weak

theorem stateOf_done (eval : Oracle) (loc : Site → Site) (st : Step) : Done (stateOf eval loc st) (fun _ => True) := by
  fun_cases stateOf eval loc st
  · apply Done.bind (Sat.site eval (loc .state)).weak.attempt
    intro s hs
    split
    · exact Done.emit .state (hs _ rfl)
    · exact Done.pure trivial
  · exact Done.pure trivial

theorem stateOf_failure (eval : Oracle) (loc : Site → Site) (st : Step)
    (hbad : (eval (loc .state)).bad = true) : (stateOf eval loc st).outs = [] := by
  fun_cases stateOf eval loc st
  · rw [site_of_bad hbad]; rfl
  · rfl

theorem stepRun_res (eval : Oracle) (interp : Interp) (loc : Site → Site) (st : Step) :
    (stepRun eval interp loc st).res = (stepBody eval interp loc st).res :=
  bind_res_of_done fun _ => (stateOf_done eval loc st).bind fun _ _ => Done.pure rfl

theorem stepRun_outs (eval : Oracle) (interp : Interp) (loc : Site → Site) (st : Step) :
    (stepRun eval interp loc st).outs = (stepBody eval interp loc st).outs ++
      (match (stepBody eval interp loc st).res with
       | .ok _ => (stateOf eval loc st).outs
       | .error _ => []) := by
  unfold stepRun
  cases hres : (stepBody eval interp loc st).res with
  | error e => rw [bind_error hres, List.append_nil]
  | ok v =>
    obtain ⟨_, hs, _⟩ := (stateOf_done eval loc st).ok
    rw [bind_ok hres, bind_ok hs, pure_outs, List.append_nil]

/-- Not a `WSat` of `stepRun`, and the first clause speaks of the body's log only: `stepRun` also logs the
    `state` evaluation, and a failed `state` expression is deliberately not answered by a PermFail (it goes to
    `state_errors`; `stateOf_failure`). -/
theorem stepRun_spec (eval : Oracle) (interp : Interp) (loc : Site → Site) (st : Step) (hl : st.logic.Clean) :
    (∀ e ∈ (stepBody eval interp loc st).evals, e.2.bad = true →
        ∃ l w, (stepRun eval interp loc st).res = .error (.permFail l w)) ∧
    (∀ o ∈ (stepRun eval interp loc st).outs, ErrFree o.2) ∧
    (∀ v, (stepRun eval interp loc st).res = .ok v → ErrFree v) := by
  have hb := stepBody_wsat eval interp loc st hl
  rw [stepRun_res, stepRun_outs]
  refine ⟨hb.contained, List.forall_mem_append.mpr ⟨hb.outs, ?_⟩, hb.post⟩
  split
  · exact (stateOf_done eval loc st).outs
  · exact List.forall_mem_nil _

theorem publishedState_errFree (outs : List (Out × ETree)) (h : ∀ o ∈ outs, ErrFree o.2) :
    ErrFree (publishedState outs) := by
  refine errFree_obj.mpr (List.foldlRecOn (motive := CleanKvs) outs _ cleanKvs_nil fun acc ha o ho => ?_)
  split
  next kvs =>
    have hk := errFree_obj.mp (h _ ho)
    exact List.foldlRecOn (motive := CleanKvs) kvs _ ha fun a ha kv hkv => cleanKvs_insert ha (hk kv hkv).1 (hk kv hkv).2
  · exact ha

def CleanResults (rs : List (Except Stop ETree)) : Prop := ∀ r ∈ rs, ∀ v, r = .ok v → ErrFree v

theorem wfBodies_done (eval : Oracle) (interp : Interp) (steps : List Step)
    (hl : ∀ st ∈ steps, st.logic.Clean) (k : Nat) (acc : List (Except Stop ETree)) (hacc : CleanResults acc) :
    Done (wfBodies eval interp k steps acc) CleanResults := by
  fun_induction wfBodies eval interp k steps acc with
  | case1 => exact Done.pure hacc
  | case2 k st rest acc depsOk ih =>
    rw [List.forall_mem_cons] at hl
    apply Done.bind (P := fun r => ∀ v, r = .ok v → ErrFree v)
    · split
      · exact (stepBody_wsat eval interp _ st hl.1).attempt
      · exact Done.pure nofun
    · exact fun r hr => ih r hl.2 (List.forall_mem_append.mpr ⟨hacc, List.forall_mem_singleton.mpr hr⟩)

theorem wfStates_done (eval : Oracle) (k : Nat) (steps : List Step) (rs : List (Except Stop ETree)) :
    Done (wfStates eval k steps rs) (fun _ => True) := by
  fun_induction wfStates eval k steps rs with
  | case1 | case2 => exact Done.pure trivial  -- no step left; no result left
  | case3 k st rest r rs ih =>
    apply Done.bind (P := fun _ => True)
    · split
      · exact stateOf_done eval _ st
      · exact Done.pure trivial
    · exact fun _ _ => ih

theorem wfRun_done (eval : Oracle) (interp : Interp) (steps : List Step)
    (hl : ∀ st ∈ steps, st.logic.Clean) :
    Done (wfRun eval interp steps) (fun rs => ∀ v, Except.ok v ∈ rs → ErrFree v) :=
  (wfBodies_done eval interp steps hl 0 [] (List.forall_mem_nil _)).bind fun _ hrs =>
    (wfStates_done eval 0 steps _).bind fun _ _ => Done.pure fun v hv => hrs _ hv v rfl

theorem source_of_representative {s : Site} {t : String × String × String} (h : s.source = some t) :
    some t ∈ representativeSites.map Site.source := by
  refine List.mem_map.mpr ?_
  induction s with
  | vf v => cases v <;> exact ⟨_, by decide +kernel, h⟩
  | overlayRef i v => cases v <;> exact ⟨.vf _, by decide +kernel, h⟩
  | overlaySkipIf i => exact ⟨.overlaySkipIf 0, by decide +kernel, h⟩
  | overlay i => exact ⟨.overlay 0, by decide +kernel, h⟩
  | overlayInputs i => exact ⟨.overlayInputs 0, by decide +kernel, h⟩
  | securityOverlay => cases h
  | iter j s ih => exact ih h
  | step k s ih => exact ih h
  | _ => exact ⟨_, by decide +kernel, h⟩

end Koreo.EvalScan
