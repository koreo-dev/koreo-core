/-
  Facts about the model of `Koreo/CelAst.lean` that the C14 / C20 lemma files share.  The one to know is
  `extractWith_eq_ok`: the extractor answers exactly when no visit of a subtree raises, and then with the keys of
  the visited subtrees.  The rest is strings and the name patterns, up to "a statically named reference is named
  `steps.<label>`".
-/
import Koreo.CelAst

namespace Koreo.CelAst
open Cel

theorem dropWhile_quote {q : Char} {l : List Char} (h : ∀ a ∈ l.head?, a ≠ q) :
    (q :: l).dropWhile (· == q) = l := by
  rw [List.dropWhile_cons_of_pos (by simp)]
  exact List.dropWhile_beq_eq_self_of_head?_ne fun e => h q e rfl

theorem pyStripFirst_quoted (q : Char) (n : List Char) (hne : n ≠ []) (hq : q ∉ n) :
    pyStripFirst (q :: n ++ [q]) = n := by
  have front : ∀ a ∈ (n ++ [q]).head?, a ≠ q := by
    intro a ha e
    cases n with
    | nil => exact hne rfl
    | cons b n' => cases ha; exact hq (e ▸ List.mem_cons_self)
  have back : ∀ a ∈ n.reverse.head?, a ≠ q :=
    fun a ha e => hq (e ▸ List.mem_reverse.1 (List.mem_of_mem_head? ha))
  simp only [pyStripFirst, List.cons_append]
  rw [dropWhile_quote front, List.reverse_append, List.reverse_singleton, List.singleton_append,
    dropWhile_quote back, List.reverse_reverse]

theorem stepsMatch_steps_dot (n : String) (h : LabelOk n) :
    stepsMatch ("steps." ++ n) = some ⟨some n⟩ := by
  obtain ⟨hne, hall⟩ := h
  have htl : ("steps." ++ n).toList = 's' :: 't' :: 'e' :: 'p' :: 's' :: '.' :: n.toList := by
    rw [String.toList_append]; rfl
  unfold stepsMatch
  rw [htl]
  have htw : n.toList.takeWhile (fun ch => ch != '.' && ch != '[') = n.toList := by
    simpa using List.takeWhile_append_of_pos (p := fun ch => ch != '.' && ch != '[') (l₁ := n.toList) (l₂ := [])
      fun c hc => by simp [(hall c hc).1, (hall c hc).2.1]
  simp only [htw]
  simp [List.isEmpty_eq_false_iff.2 hne, String.ofList_toList]

theorem stepsName_steps_dot (n : String) (h : LabelOk n) : stepsName ("steps." ++ n) = some n := by
  rw [stepsName, stepsMatch_steps_dot n h]; rfl

theorem stepsMatch_name (key : String) : (stepsMatch key).map (·.name) = (stepsName key).map some := by
  unfold stepsName
  -- no match, or (the last exit) a match built from a non-empty name
  fun_cases stepsMatch key <;> rfl

/-- (`≤`, whatever the name says: the list's size counts the member itself; the strict form is `Cel.size_child_lt`) -/
theorem Cel.size_lt_of_mem {c : Cel} {cs : List Cel} (h : c ∈ cs) : c.size ≤ Cel.sizeL cs := by
  induction cs with
  | nil => cases h
  | cons x xs ih =>
    simp only [Cel.sizeL]
    rcases List.mem_cons.1 h with rfl | h
    · omega
    · have := ih h; omega

theorem Cel.size_child_lt {k : Kind} {c : Cel} {cs : List Cel} (h : c ∈ cs) :
    c.size < (Cel.node k cs).size := by
  have := Cel.size_lt_of_mem h
  simp only [Cel.size]; omega

/-- the receiver root `tree.children[0].children[0]`, on which the naming functions call each other -/
theorem Cel.size_root_lt {k km : Kind} {root : Cel} {rest cs : List Cel} :
    root.size < (Cel.node k (.node km (root :: rest) :: cs)).size :=
  Nat.lt_trans (Cel.size_child_lt List.mem_cons_self) (Cel.size_child_lt List.mem_cons_self)

theorem Cel.ind {P : Cel → Prop} (node : ∀ k cs, (∀ c ∈ cs, P c) → P (.node k cs))
    (tok : ∀ t s, P (.tok t s)) (t : Cel) : P t := by
  induction t using (measure Cel.size).wf.induction with
  | _ t ih =>
    cases t with
    | tok t s => exact tok t s
    | node k cs => exact node k cs fun c hc => ih c (Cel.size_child_lt hc)

theorem mem_subtreesL {s : Cel} : ∀ {cs : List Cel}, s ∈ Cel.subtreesL cs ↔ ∃ c ∈ cs, s ∈ c.subtrees
  | [] => by simp [Cel.subtreesL]
  | c :: cs => by simp [Cel.subtreesL, mem_subtreesL (cs := cs)]

theorem mem_subtrees_node {s : Cel} {k : Kind} {cs : List Cel} :
    s ∈ (Cel.node k cs).subtrees ↔ s = .node k cs ∨ ∃ c ∈ cs, s ∈ c.subtrees := by
  simp [Cel.subtrees, mem_subtreesL]

def R.key? : R → Option String
  | .key s => some s
  | _ => none

theorem collect_eq_ok {rs : List R} {ks : List String} :
    collect rs = .ok ks ↔ (∀ r ∈ rs, r.isRaise = false) ∧ rs.filterMap R.key? = ks := by
  induction rs generalizing ks with
  | nil => exact ⟨fun h => ⟨nofun, Except.ok.inj h⟩, fun h => congrArg _ h.2⟩
  | cons r rest ih =>
    rw [List.forall_mem_cons]
    cases r with
    | raise m => exact ⟨nofun, fun h => nomatch h.1.1⟩
    | skip => exact ih.trans ⟨fun h => ⟨⟨rfl, h.1⟩, h.2⟩, fun h => ⟨h.1.2, h.2⟩⟩
    | key s =>
      show (collect rest).map (s :: ·) = .ok ks ↔ _
      cases hc : collect rest with
      | error e => exact ⟨nofun, fun h => nomatch hc.symm.trans (ih.2 ⟨h.1.2, rfl⟩)⟩
      | ok ks' =>
        obtain ⟨h1, rfl⟩ := ih.1 hc
        exact ⟨fun h => ⟨⟨rfl, h1⟩, Except.ok.inj h⟩, fun h => congrArg _ h.2⟩

theorem collect_mem {rs : List R} {ks : List String} {s : String} (h : collect rs = .ok ks) :
    s ∈ ks ↔ R.key s ∈ rs := by
  rw [← (collect_eq_ok.1 h).2, List.mem_filterMap]
  constructor
  · rintro ⟨r, hr, hk⟩
    cases r <;> cases hk
    exact hr
  · exact fun hr => ⟨_, hr, rfl⟩

theorem extractWith_eq_ok {d : Dispatch} {t : Cel} {ks : List String} :
    extractWith d t = .ok ks ↔
      (∀ s ∈ t.subtrees, (visit d s).isRaise = false) ∧ t.subtrees.filterMap (R.key? ∘ visit d) = ks := by
  rw [extractWith, collect_eq_ok, List.filterMap_map, List.forall_mem_map]

theorem mem_extractWith {d : Dispatch} {t : Cel} {ks : List String} {k : String}
    (h : extractWith d t = .ok ks) : k ∈ ks ↔ ∃ s ∈ t.subtrees, visit d s = .key k := by
  rw [collect_mem h, List.mem_map]

/-- the reference node itself, without `StaticRef.inside`; `staticRef_subtree` finds one among the subtrees -/
inductive RefNode : Cel → String → Prop
  | dot (n : String) : LabelOk n → RefNode (Cel.memberDot (Cel.var "steps") n) n
  | index (n : String) (q : Char) : LabelOk n → q = '"' ∨ q = '\'' →
      RefNode (Cel.memberIndex (Cel.var "steps")
        (Cel.litExpr .STRING_LIT (String.ofList (q :: n.toList ++ [q])))) n

theorem staticRef_subtree {e : Cel} {n : String} (h : StaticRef e n) :
    ∃ s ∈ e.subtrees, RefNode s n := by
  induction h with
  | dot n hn => exact ⟨_, mem_subtrees_node.2 (.inl rfl), .dot n hn⟩
  | index n q hn hq => exact ⟨_, mem_subtrees_node.2 (.inl rfl), .index n q hn hq⟩
  | inside k cs c n hc _ ih =>
    obtain ⟨s, hs, hr⟩ := ih
    exact ⟨s, mem_subtrees_node.2 (.inr ⟨c, hc, hs⟩), hr⟩

theorem steps_dot (n : String) : "steps" ++ "." ++ n = "steps." ++ n := by
  rw [String.append_assoc]; rfl

theorem visit_steps_dot (n : String) :
    visit modelDispatch (memberDot (var "steps") n) = .key ("steps." ++ n) :=
  congrArg R.key (steps_dot n)

theorem visit_steps_index (e : Cel) :
    visit modelDispatch (memberIndex (var "steps") e) =
      match indexTerminal modelDispatch e with
      | .key tvs => .key ("steps" ++ "." ++ tvs)
      | other => other := by
  simp only [visit, memberIndex, var, member, processMemberIndex]
  rfl

theorem indexTerminal_string (s : String) (hs : s ≠ "") (hk : String.ofList (pyStripFirst s.toList) ≠ "") :
    indexTerminal modelDispatch (litExpr .STRING_LIT s) = .key (String.ofList (pyStripFirst s.toList)) := by
  have hp : processPrimary modelDispatch (primary (literal .STRING_LIT s))
      = if s = "" then .raise "IndexError: literal[0]" else .key (String.ofList (pyStripFirst s.toList)) := rfl
  have hi : indexTerminal modelDispatch (litExpr .STRING_LIT s) =
      match processPrimary modelDispatch (primary (literal .STRING_LIT s)) with
      | .key k => if k = "" then site modelDispatch.idxEmpty "CAN NOT PROCESS MEMBER_INDEX terminal expr" else .key k
      | other => other := rfl
  rw [hi, hp, if_neg hs]
  exact if_neg hk

theorem visit_refNode {s : Cel} {n : String} (h : RefNode s n) :
    visit modelDispatch s = .key ("steps." ++ n) := by
  cases h with
  | dot n hn => exact visit_steps_dot n
  | index n q hn hq =>
    obtain ⟨hne, hall⟩ := hn
    have hqn : q ∉ n.toList := by
      intro hm
      obtain ⟨_, _, h3, h4, _⟩ := hall q hm
      rcases hq with rfl | rfl
      · exact h3 rfl
      · exact h4 rfl
    have hstrip : String.ofList (pyStripFirst (String.ofList (q :: n.toList ++ [q])).toList) = n := by
      rw [String.toList_ofList, pyStripFirst_quoted q n.toList hne hqn, String.ofList_toList]
    have hne' : String.ofList (q :: n.toList ++ [q]) ≠ "" := fun e => by simpa using congrArg String.toList e
    have hn' : n ≠ "" := fun e => hne (e ▸ rfl)
    rw [visit_steps_index, indexTerminal_string _ hne' (by rw [hstrip]; exact hn'), hstrip]
    exact congrArg R.key (steps_dot n)

theorem static_ref_dep {e : Cel} {n : String} {ks : List String}
    (hx : extract e = .ok ks) (h : StaticRef e n) : n ∈ stepDeps ks := by
  obtain ⟨s, hs, hr⟩ := staticRef_subtree h
  have hlabel : LabelOk n := by cases hr <;> assumption
  exact List.mem_filterMap.2
    ⟨_, (mem_extractWith hx).2 ⟨s, hs, visit_refNode hr⟩, stepsName_steps_dot n hlabel⟩

end Koreo.CelAst
