/-
  C04 / C05, comparator side: the comparator's "match" lies between the two readings of the property.
  Whatever meets the target (`meetsB .full`) is reported as matching; whatever is reported as matching
  meets the target in every field the comparison is answerable for (`meetsB .excl`).
-/
import Koreo.Lemmas.Compare
namespace Koreo.Compare
open Koreo Koreo.JVal

mutual
theorem vm_of_meets (t live la : JVal) (hw : wfB t = true) (hm : meetsB .full t live la = true) :
    validateMatch t live la false = .ok := by
  match t with
  | .obj tkvs =>
    obtain ⟨lkvs, rfl, hla, hm⟩ := meetsB_obj_iff.mp hm
    rw [wfB_obj] at hw
    rw [vm_obj hw.1]
    exact vmO_of_meets (specDirs tkvs) lkvs la tkvs (specMap_strs _) hw.2 hla hm
  | .arr txs =>
    obtain ⟨lxs, rfl, hla, hm⟩ := meetsB_arr_iff.mp hm
    rw [wfB_arr] at hw
    rw [vm_arr_of_laOk hla, if_pos (meetsL_length .full txs lxs _ hm)]
    exact vmL_of_meets txs lxs _ hw hm
  | .null | .bool _ | .int _ | .flt _ | .str _ => exact (vm_scalar_ok rfl).mpr hm
termination_by structural t
theorem vmO_of_meets (d : Dirs) (akvs : List (String × JVal)) (la : JVal) (tkvs : List (String × JVal))
    (hd : ∀ k f, fieldsFor k d.asMap = some f → f.all isStr = true)
    (hw : wfO d tkvs = true) (hla : laMapOk la = true)
    (hm : meetsO .full d akvs (laObjKvs la) tkvs = true) : vmO d akvs la tkvs = .ok := by
  match tkvs with
  | [] => rw [vmO.eq_1]
  | (k, tv) :: rest =>
    obtain ⟨hkd, hwv, hwr⟩ := wfO_cons.mp hw
    obtain ⟨hk, hrest⟩ := meetsO_cons_iff.mp hm
    refine vmO_cons_ok.mpr ⟨fun hs => ?_, vmO_of_meets d akvs la rest hd hwr hla hrest⟩
    have hdir := isDirective_of_not_skipped hs
    replace hkd := hkd hdir
    obtain ⟨cv, hcv, hv⟩ := hk (compared_full.mpr hdir)
    refine ⟨_, cv, laAt_of_ok la k hla, hcv, ?_⟩
    match hf : fieldsFor k d.asMap with
    | none =>
      rw [meetsVal_plain hf] at hv
      rw [vmVal_plain hf hkd]
      split
      next hset => rw [if_pos hset] at hv; rw [if_pos hv]
      next hset => rw [if_neg hset] at hv; exact vm_of_meets tv cv _ hwv hv
    | some fields =>
      cases tv with
      | arr tms =>
        have hfs := hd k fields hf
        obtain ⟨hto, hdist, _⟩ := keyDirOk_keyed hf hkd
        obtain ⟨lms, rfl, hlo, hmK⟩ := (meetsVal_keyed hf).mp hv
        rw [wfB_arr] at hwv
        obtain ⟨ldict, hL, ⟨_, adict, e, hlo, had, ev⟩ | ⟨hno, -⟩⟩ :=
          vmVal_keyed (.arr lms) (laVal (laObjKvs la) k) hf hfs hto
        · cases e
          rw [ev]
          exact vmK_of_meets fields hfs lms _ adict ldict had hlo hL tms hwv hdist hto hmK
        · cases (hno lms rfl).symm.trans hlo      -- the live side is a list of maps
      | _ => simp [keyDirOk, hf] at hkd
termination_by structural tkvs
theorem vmL_of_meets (txs lxs items : List JVal) (hw : wfL txs = true)
    (hm : meetsL .full txs lxs items = true) : vmL txs lxs items = .ok := by
  match txs, lxs with
  | [], _ => exact vmL_nil_left _ _
  | _ :: _, [] => exact vmL_nil_right _ _
  | t :: ts, l :: ls =>
    rw [wfL_cons] at hw
    rw [meetsL.eq_2, Bool.and_eq_true] at hm
    exact vmL_cons_ok.mpr ⟨vm_of_meets t l _ hw.1 hm.1, vmL_of_meets ts ls _ hw.2 hm.2⟩
termination_by structural txs
theorem vmK_of_meets (fields : List JVal) (hf : fields.all isStr = true) (lms lams : List JVal)
    (adict ldict : List (String × JVal)) (hA : keyedDict fields lms = some adict) (hAo : allObj lms = true)
    (hL : ∀ key, (lookup key ldict).getD .null = laMember fields key lams)
    (tms : List JVal) (hw : wfL tms = true) (hdist : keysDistinct fields tms = true) (hto : allObj tms = true)
    (hm : meetsK .full fields lms lams tms = true) : vmK fields adict ldict tms = .ok := by
  match tms with
  | [] => rw [vmK.eq_1]
  | tm :: rest =>
    -- no other case: `allObj` of a head that is no map computes to `false`, so `hto` rules it out; for a map head
    -- `hto` computes to `allObj rest` and is handed on as that
    match tm, hto with
    | .obj mkvs, hto =>
      rw [wfL_cons] at hw
      obtain ⟨key, hkey, hs, hh, hdr⟩ := keysDistinct_cons.mp hdist
      obtain ⟨⟨hhas, hall⟩, hrest⟩ := (meetsK_cons_full hkey).mp hm
      obtain ⟨hmem, hk⟩ := laMember_spec hhas
      exact (vmK_cons_ok hkey hs hh hA hAo).mpr
        ⟨⟨hhas, hL key ▸ vm_of_meets (.obj mkvs) _ _ hw.1 (hall _ hmem hk)⟩,
          vmK_of_meets fields hf lms lams adict ldict hA hAo hL rest hw.2 hdr hto hrest⟩
termination_by structural tms
end

mutual
/-- `la'` is any tree, not the `la` the comparison ran with: `MeetsExcl` asks for `.null`, and the recursion
    hands down whatever sits below it -/
theorem meets_of_vm (t live la la' : JVal) (hw : wfB t = true) (h : validateMatch t live la false = .ok) :
    meetsB .excl t live la' = true := by
  match t with
  | .obj tkvs =>
    rw [wfB_obj] at hw
    obtain ⟨lkvs, rfl, hO⟩ := vm_obj_ok hw.1 h
    exact meetsB_obj_iff.mpr ⟨lkvs, rfl, rfl,
      meetsO_of_vm (specDirs tkvs) lkvs la _ tkvs (specMap_strs _) hw.2 hO⟩
  | .arr txs =>
    obtain ⟨lxs, items, rfl, hlen, h⟩ := vm_arr_ok h
    rw [wfB_arr] at hw
    exact meetsB_arr_iff.mpr ⟨lxs, rfl, rfl, meetsL_of_vm txs lxs items _ hw hlen h⟩
  | .null | .bool _ | .int _ | .flt _ | .str _ => exact (vm_scalar_ok rfl).mp h
termination_by structural t
theorem meetsO_of_vm (d : Dirs) (akvs : List (String × JVal)) (la : JVal) (lakvs' : List (String × JVal))
    (tkvs : List (String × JVal))
    (hd : ∀ k f, fieldsFor k d.asMap = some f → f.all isStr = true)
    (hw : wfO d tkvs = true) (h : vmO d akvs la tkvs = .ok) :
    meetsO .excl d akvs lakvs' tkvs = true := by
  match tkvs with
  | [] => rw [meetsO.eq_1]
  | (k, tv) :: rest =>
    obtain ⟨hkd, hwv, hwr⟩ := wfO_cons.mp hw
    obtain ⟨hk, hrest⟩ := vmO_cons_ok.mp h
    refine meetsO_cons_iff.mpr ⟨fun hc => ?_, meetsO_of_vm d akvs la lakvs' rest hd hwr hrest⟩
    obtain ⟨hs, hnl⟩ := compared_excl hc
    replace hkd := hkd (isDirective_of_not_skipped hs)
    obtain ⟨lav, cv, _, hcv, hv⟩ := hk hs
    rw [cmpValue_live hnl] at hcv ⊢
    refine ⟨cv, hcv, ?_⟩
    match hf : fieldsFor k d.asMap with
    | none =>
      rw [vmVal_plain hf hkd] at hv
      rw [meetsVal_plain hf]
      split
      next hset => rw [if_pos hset] at hv; exact ite_ok_iff.mp hv
      next hset => rw [if_neg hset] at hv; exact meets_of_vm tv cv lav _ hwv hv
    | some fields =>
      cases tv with
      | arr tms =>
        obtain ⟨hto, hdist, _⟩ := keyDirOk_keyed hf hkd
        have hfs := hd k fields hf
        rw [wfB_arr] at hwv
        obtain ⟨ldict, -, ⟨lms, adict, rfl, hlo, had, e⟩ | ⟨-, e⟩⟩ := vmVal_keyed cv lav hf hfs hto
        · exact (meetsVal_keyed hf).mpr ⟨lms, rfl, rfl,
            meetsK_of_vm fields hfs lms _ adict ldict had hlo tms hwv hdist hto (e ▸ hv)⟩
        · rw [e] at hv; cases hv
      | _ => simp [keyDirOk, hf] at hkd
termination_by structural tkvs
theorem meetsL_of_vm (txs lxs items items' : List JVal) (hw : wfL txs = true)
    (hlen : txs.length = lxs.length) (h : vmL txs lxs items = .ok) :
    meetsL .excl txs lxs items' = true := by
  match txs, lxs with
  | [], [] => rw [meetsL.eq_1]
  | [], _ :: _ => cases hlen
  | _ :: _, [] => cases hlen
  | t :: ts, l :: ls =>
    rw [wfL_cons] at hw
    obtain ⟨h1, h2⟩ := vmL_cons_ok.mp h
    rw [meetsL.eq_2, Bool.and_eq_true]
    exact ⟨meets_of_vm t l _ _ hw.1 h1, meetsL_of_vm ts ls _ _ hw.2 (Nat.succ.inj hlen) h2⟩
termination_by structural txs
theorem meetsK_of_vm (fields : List JVal) (hf : fields.all isStr = true) (lms lams' : List JVal)
    (adict ldict : List (String × JVal)) (hA : keyedDict fields lms = some adict) (hAo : allObj lms = true)
    (tms : List JVal) (hw : wfL tms = true) (hdist : keysDistinct fields tms = true) (hto : allObj tms = true)
    (h : vmK fields adict ldict tms = .ok) : meetsK .excl fields lms lams' tms = true := by
  match tms with
  | [] => rw [meetsK.eq_1]
  | tm :: rest =>
    match tm, hto with
    | .obj mkvs, hto =>
      rw [wfL_cons] at hw
      obtain ⟨key, hkey, hs, hh, hdr⟩ := keysDistinct_cons.mp hdist
      obtain ⟨⟨hhas, h1⟩, h2⟩ := (vmK_cons_ok hkey hs hh hA hAo).mp h
      obtain ⟨hmem, hmk⟩ := laMember_spec hhas
      exact (meetsK_cons_excl hkey).mpr ⟨⟨_, hmem, hmk, meets_of_vm (.obj mkvs) _ _ _ hw.1 h1⟩,
        meetsK_of_vm fields hf lms lams' adict ldict hA hAo rest hw.2 hdr hto h2⟩
termination_by structural tms
end

end Koreo.Compare
