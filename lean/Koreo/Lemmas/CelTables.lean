/-
  The two facts about the regenerated probe table that both C14 and C20 state.  Each is a finite
  check of `Koreo/Gen/CelTables.lean`, evaluated by the kernel once, here.
-/
import Koreo.Gen.CelTables

namespace Koreo.CelAst
open Koreo.Gen.CelTables

theorem probes_agree : probes.all (fun p => probeAgrees p.1 p.2) = true := by decide +kernel

theorem contains_pair {α β} [BEq α] [BEq β] (l : List (α × β)) (a : α) (b : β) :
    l.contains (a, b) = ((l.filter (a == ·.1)).map (·.2)).contains b := by
  induction l with
  | nil => rfl
  | cons x xs ih =>
    rw [List.contains_cons, List.filter_cons, ih]
    show (a == x.1 && b == x.2 || _) = _
    cases a == x.1 <;> simp

theorem probes_cover :
    probePositions.all (fun pos => allKinds.all fun k => probeCoverage.contains (pos, k)) = true := by
  -- The rows of one position are selected once (7 passes over the table comparing strings) and the
  -- 38 kinds looked up among them; evaluated as stated, every lookup compares strings along the
  -- whole table, five times the work.
  simp only [contains_pair]
  decide +kernel

end Koreo.CelAst
