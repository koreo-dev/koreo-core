/-
  What a payload contains.  `strip` removes every directive key and nothing else (`noDirectiveKey`, read binding by
  binding through `noDirO_iff`).  From the closed form of `prepareForApi` (Lemmas/Identity.lean): the payload has no
  directive key, its annotation is the dump of the stripped object, and without the annotation it is that object up to
  the empty containers made to hold it.  Owner references: `updatedOwnerRefs` and `ownerReffed` of Koreo/Payload.lean
  both read `ownerRefsOf`; the server's merge-patch is read back key by key, which needs distinct keys at the two
  levels a patch is read at (`Uniq2`); `createPayload_owner` and `patch_merged_refs` put these together.  `serverAfter`
  is the server's side of one request.  (The lemma namespace `Koreo.Rf` is not the structure `Koreo.ResourceFn.Rf`.)
  Core Lean only.
-/
import Koreo.Lemmas.Pipeline
namespace Koreo.Rf
open Koreo JVal Koreo.Identity Koreo.Payload Koreo.ResourceFn

mutual
theorem strip_noDir : ∀ v : JVal, noDirectiveKey (strip v) = true
  | .obj kvs => stripO_noDir kvs
  | .arr xs => stripL_noDir xs
  | .null | .bool _ | .int _ | .flt _ | .str _ => rfl
theorem stripL_noDir : ∀ xs : List JVal, noDirectiveKeyL (stripL xs) = true
  | [] => rfl
  | x :: xs => by simp only [stripL, noDirectiveKeyL, strip_noDir x, stripL_noDir xs, Bool.and_self]
theorem stripO_noDir : ∀ kvs : List (String × JVal), noDirectiveKeyO (stripO kvs) = true
  | [] => rfl
  | (k, v) :: rest => by
    by_cases h : isDirective k = true
    · simp only [stripO, h, if_true]; exact stripO_noDir rest
    · have h' : isDirective k = false := by simpa using h
      simp only [stripO, h', Bool.false_eq_true, if_false, noDirectiveKeyO, strip_noDir v, stripO_noDir rest,
        Bool.not_false, Bool.and_self]
end

mutual
theorem strip_id_of_noDir : ∀ v : JVal, noDirectiveKey v = true → strip v = v
  | .obj kvs, h => congrArg JVal.obj (stripO_id_of_noDir kvs h)
  | .arr xs, h => congrArg JVal.arr (stripL_id_of_noDir xs h)
  | .null, _ | .bool _, _ | .int _, _ | .flt _, _ | .str _, _ => rfl
theorem stripL_id_of_noDir : ∀ xs : List JVal, noDirectiveKeyL xs = true → stripL xs = xs
  | [], _ => rfl
  | x :: xs, h => by
    simp only [noDirectiveKeyL, Bool.and_eq_true] at h
    simp only [stripL, strip_id_of_noDir x h.1, stripL_id_of_noDir xs h.2]
theorem stripO_id_of_noDir : ∀ kvs : List (String × JVal), noDirectiveKeyO kvs = true → stripO kvs = kvs
  | [], _ => rfl
  | (k, v) :: rest, h => by
    simp only [noDirectiveKeyO, Bool.and_eq_true, Bool.not_eq_true'] at h
    simp only [stripO, h.1.1, Bool.false_eq_true, if_false, strip_id_of_noDir v h.1.2, stripO_id_of_noDir rest h.2]
end

theorem noDirO_iff : ∀ {kvs : Fields}, noDirectiveKeyO kvs = true ↔
    ∀ kv ∈ kvs, isDirective kv.1 = false ∧ noDirectiveKey kv.2 = true
  | [] => by simp [noDirectiveKeyO]
  | (k, v) :: rest => by simp [noDirectiveKeyO, noDirO_iff (kvs := rest), and_assoc]

theorem noDirO_lookup {k : String} {v : JVal} {kvs : Fields} (hn : noDirectiveKeyO kvs = true)
    (h : JVal.lookup k kvs = some v) : noDirectiveKey v = true :=
  (noDirO_iff.mp hn _ (lookup_mem h)).2

theorem noDirO_insert {k : String} {v : JVal} (hk : isDirective k = false) (hv : noDirectiveKey v = true)
    {kvs : Fields} (hn : noDirectiveKeyO kvs = true) : noDirectiveKeyO (JVal.insert k v kvs) = true :=
  noDirO_iff.mpr (forall_mem_insert ⟨hk, hv⟩ (noDirO_iff.mp hn))

theorem noDirO_erase (k : String) : ∀ {kvs : Fields}, noDirectiveKeyO kvs = true →
    noDirectiveKeyO (JVal.erase k kvs) = true :=
  fun hn => noDirO_iff.mpr fun kv hm => noDirO_iff.mp hn kv (mem_erase hm)

theorem subMap_noDir {k : String} {kvs m : Fields} (hn : noDirectiveKeyO kvs = true) (h : subMap k kvs = some m) :
    noDirectiveKeyO m = true := by
  rcases subMap_cases h with ⟨_, rfl⟩ | hl
  · rfl
  · exact noDirO_lookup hn hl

theorem prepareForApi_noDir {enc : JVal → String} {o p : JVal} (h : prepareForApi enc o = some p) :
    noDirectiveKey p = true := by
  obtain ⟨kvs, m, a, hs, hm, ha, rfl⟩ := prepareForApi_spec h
  have hk : noDirectiveKey (.obj kvs) = true := hs ▸ strip_noDir o
  have hmn := subMap_noDir hk hm
  have han : noDirectiveKey (.obj (JVal.insert lastApplied (.str (enc (.obj kvs))) a)) = true :=
    noDirO_insert (by decide +kernel) rfl (subMap_noDir hmn ha)
  have hmn' : noDirectiveKey (.obj (JVal.insert "annotations" _ m)) = true := noDirO_insert (by decide +kernel) han hmn
  exact noDirO_insert (by decide +kernel) hmn' hk

theorem annotationOf_prepareForApi {enc : JVal → String} {o p : JVal} (h : prepareForApi enc o = some p) :
    annotationOf p = some (enc (strip o)) := by
  obtain ⟨kvs, m, a, hs, hm, ha, rfl⟩ := prepareForApi_spec h
  simp [annotationOf, metaKey_insert_metadata, getKey, lookup_insert_self, hs]

theorem lacks_of_subMap {o : JVal} {kvs m a : Fields} (hs : strip o = .obj kvs) (hm : subMap "metadata" kvs = some m)
    (ha : subMap "annotations" m = some a) (hl : LacksLastApplied o) : JVal.lookup lastApplied a = none := by
  have h1 : (metaKey "annotations" (strip o)).bind (getKey lastApplied) = none := by
    unfold LacksLastApplied at hl
    rw [metaKey_strip (by decide +kernel)]
    cases hx : metaKey "annotations" o with
    | none => rfl
    | some x =>
      rw [hx, Option.bind_some] at hl
      simp [getKey_strip (show isDirective lastApplied = false by decide +kernel), hl]
  rw [hs, metaKey_of_subMap hm] at h1
  rcases subMap_cases ha with ⟨_, rfl⟩ | hla
  · rfl
  · simpa [hla, getKey] using h1

theorem removeAnnotation_prepareForApi {enc : JVal → String} {o p : JVal} (h : prepareForApi enc o = some p)
    (hl : LacksLastApplied o) : HolderEq (removeAnnotation p) (strip o) := by
  obtain ⟨kvs, m, a, hs, hm, ha, rfl⟩ := prepareForApi_spec h
  have hla := lacks_of_subMap hs hm ha hl
  have hrem : removeAnnotation (.obj (JVal.insert "metadata"
      (.obj (JVal.insert "annotations" (.obj (JVal.insert lastApplied (.str (enc (.obj kvs))) a)) m)) kvs)) =
      .obj (JVal.insert "metadata" (.obj (JVal.insert "annotations" (.obj a) m)) kvs) := by
    simp [removeAnnotation, lookup_insert_self, erase_insert_of_lookup_none _ hla, insert_insert_same]
  rw [hrem, hs]
  rcases subMap_cases hm with ⟨hlm, rfl⟩ | hlm
  · -- no `metadata`: both containers are new
    rcases subMap_cases ha with ⟨_, rfl⟩ | hlan
    · exact .inr (.inr ⟨kvs, rfl, hlm, rfl⟩)
    · cases hlan
  · rcases subMap_cases ha with ⟨hlan, rfl⟩ | hlan
    · exact .inr (.inl ⟨kvs, m, rfl, hlm, hlan, rfl⟩)
    · exact .inl (by rw [insert_of_lookup hlan, insert_of_lookup hlm])

theorem ownerRefsOf_strip (o : JVal) : ownerRefsOf (strip o) = stripL (ownerRefsOf o) := by
  unfold ownerRefsOf
  rw [metaKey_strip (by decide +kernel)]
  cases metaKey "ownerReferences" o with
  | none => rfl
  | some v => cases v <;> rfl

theorem ownerRefsOf_prepareForApi {enc : JVal → String} {o p : JVal} (h : prepareForApi enc o = some p) :
    ownerRefsOf p = stripL (ownerRefsOf o) := by
  rw [← ownerRefsOf_strip]
  unfold ownerRefsOf
  rw [metaKey_prepareForApi h (by simp)]

theorem ownerRefsOf_setMetaKey {refs : List JVal} {v v' : JVal}
    (h : setMetaKey "ownerReferences" (.arr refs) v = some v') : ownerRefsOf v' = refs := by
  unfold ownerRefsOf
  rw [metaKey_setMetaKey_self h]

theorem pyEq_strip_str (x : JVal) (s : String) : JVal.pyEq (strip x) (.str s) = JVal.pyEq x (.str s) := by
  cases x <;> simp [strip, JVal.pyEq, JVal.num8?]

theorem uidOf_strip (r : JVal) : uidOf (strip r) = strip (uidOf r) := by
  unfold uidOf
  rw [getKey_strip (by decide +kernel)]
  cases getKey "uid" r <;> rfl

/-- only for a string uid: `strip` can change a map-valued uid, and `pyEq` would then compare another value -/
theorem hasUid_stripL (s : String) (refs : List JVal) : hasUid (.str s) (stripL refs) = hasUid (.str s) refs := by
  simp [hasUid, stripL_eq_map, List.any_map, Function.comp_def, uidOf_strip, pyEq_strip_str]

theorem hasUid_append (u : JVal) (xs ys : List JVal) : hasUid u (xs ++ ys) = (hasUid u xs || hasUid u ys) := by
  simp [hasUid, List.any_append]

theorem hasUid_self {ref : JVal} {s : String} (h : uidOf ref = .str s) : hasUid (.str s) [ref] = true := by
  simp [hasUid, h, JVal.pyEq]

theorem ownerRefsOf_of_metadata {v : JVal} {m : Fields} (hm : getKey "metadata" v = some (.obj m)) :
    ownerRefsOf v = match JVal.lookup "ownerReferences" m with
      | some (.arr xs) => xs
      | _ => [] := by
  unfold ownerRefsOf metaKey
  rw [hm]
  rfl

theorem ownerRefsOf_of_falsy {v rv : JVal} {m : Fields} (hm : getKey "metadata" v = some (.obj m))
    (hl : JVal.lookup "ownerReferences" m = some rv) (hf : (!rv.truthy) = true) : ownerRefsOf v = [] := by
  rw [ownerRefsOf_of_metadata hm, hl]
  cases rv with
  | arr xs =>
    cases xs with
    | nil => rfl
    | cons x xs => simp [JVal.truthy] at hf
  | _ => rfl

theorem updatedOwnerRefs_eq {view ref : JVal} {refs : List JVal} (h : updatedOwnerRefs view ref = some refs) :
    refs = if hasUid (uidOf ref) (ownerRefsOf view) then ownerRefsOf view else ownerRefsOf view ++ [ref] := by
  revert h
  fun_cases updatedOwnerRefs view ref <;> intro h
  -- no `ownerReferences`, or a falsy value there: ours alone
  case case1 m hm hl => cases h; simp [ownerRefsOf_of_metadata hm, hl, hasUid]
  case case2 m hm rv hl hf => cases h; simp [ownerRefsOf_of_falsy hm hl hf, hasUid]
  -- a list: as it is when ours is on it, ours behind it otherwise
  case case3 m hm xs hu hl _ => cases h; simp [ownerRefsOf_of_metadata hm, hl, hu]
  case case4 m hm xs hu hl _ => cases h; simp [ownerRefsOf_of_metadata hm, hl, hu]
  -- a truthy value that is no list, or `metadata` no map: PermFail
  case case5 | case6 => cases h

theorem updatedOwnerRefs_hasUid {view ref : JVal} {s : String} {refs : List JVal} (hu : uidOf ref = .str s)
    (h : updatedOwnerRefs view ref = some refs) : hasUid (.str s) refs = true := by
  rw [updatedOwnerRefs_eq h, hu]
  split
  · assumption
  · rw [hasUid_append, hasUid_self hu, Bool.or_true]

theorem ownerReffed_false {live ref : JVal} (h : ownerReffed live ref = false) :
    hasUid (uidOf ref) (ownerRefsOf live) = false := by
  revert h
  fun_cases ownerReffed live ref <;> intro h
  -- the exits of `ownerReffed` (`_validate_owner_reffed`): no or falsy `ownerReferences`, then a list
  case case1 m hm hl => simp [ownerRefsOf_of_metadata hm, hl, hasUid]
  case case2 m hm rv hl hf => simp [ownerRefsOf_of_falsy hm hl hf, hasUid]
  case case3 m hm xs hl _ => rwa [ownerRefsOf_of_metadata hm, hl]
  -- where `_updated_owner_refs` answers PermFail the live object counts as reffed
  case case4 | case5 => cases h

/-- what a Python dict guarantees, at the two levels a patch is read at (the top level and `metadata`) -/
def Uniq2 (v : JVal) : Prop :=
  ∀ kvs, v = .obj kvs → (JVal.keys kvs).Nodup ∧ ∀ m, JVal.lookup "metadata" kvs = some (.obj m) → (JVal.keys m).Nodup

theorem uniq2_strip {o : JVal} (h : Uniq2 o) : Uniq2 (strip o) := by
  intro kvs hs
  cases o with
  | obj okvs =>
    cases hs
    obtain ⟨h1, h2⟩ := h okvs rfl
    refine ⟨nodup_keys_stripO h1, fun m hm => ?_⟩
    rw [lookup_stripO (by decide +kernel)] at hm
    obtain ⟨mv, hl, hmv⟩ := Option.map_eq_some_iff.mp hm
    cases mv with
    | obj om =>
      cases hmv
      exact nodup_keys_stripO (h2 om hl)
    | _ => cases hmv
  | _ => cases hs

theorem nodup_of_subMap {k : String} {kvs m : Fields} (h : subMap k kvs = some m)
    (hn : ∀ m', JVal.lookup k kvs = some (.obj m') → (JVal.keys m').Nodup) : (JVal.keys m).Nodup := by
  rcases subMap_cases h with ⟨_, rfl⟩ | hl
  · exact List.nodup_nil
  · exact hn _ hl

theorem uniq2_insert_metadata {kvs m : Fields} (h1 : (JVal.keys kvs).Nodup) (h2 : (JVal.keys m).Nodup) :
    Uniq2 (.obj (JVal.insert "metadata" (.obj m) kvs)) := by
  intro kvs' hk
  cases hk
  refine ⟨nodup_keys_insert _ _ h1, fun m' hm' => ?_⟩
  rw [lookup_insert_self] at hm'
  cases hm'
  exact h2

theorem uniq2_setMetaKey {k : String} {x v v' : JVal} (h : setMetaKey k x v = some v') (hu : Uniq2 v) : Uniq2 v' := by
  obtain ⟨kvs, m, rfl, hm, rfl⟩ := setMetaKey_spec h
  obtain ⟨h1, h2⟩ := hu kvs rfl
  exact uniq2_insert_metadata h1 (nodup_keys_insert _ _ (h2 m hm))

theorem uniq2_dropMetaKey {k : String} {v v' : JVal} (h : dropMetaKey k v = some v') (hu : Uniq2 v) : Uniq2 v' := by
  obtain ⟨kvs, m, rfl, hm, rfl⟩ := dropMetaKey_spec h
  obtain ⟨h1, h2⟩ := hu kvs rfl
  exact uniq2_insert_metadata h1 (nodup_keys_erase _ (h2 m hm))

theorem metaKey_dropMetaKey_self {k : String} {v v' : JVal} (h : dropMetaKey k v = some v') (hu : Uniq2 v) :
    metaKey k v' = none := by
  obtain ⟨kvs, m, rfl, hm, rfl⟩ := dropMetaKey_spec h
  rw [metaKey_insert_metadata, lookup_erase_self k m ((hu kvs rfl).2 m hm)]

/-- `(getKey k t).getD .null`: a missing key and a target that is no map both patch like null -/
theorem getKey_mergePatch_mem {k : String} {pv : JVal} {pkvs : Fields} (hn : (JVal.keys pkvs).Nodup)
    (h : JVal.lookup k pkvs = some pv) (hnull : pv ≠ .null) (t : JVal) :
    getKey k (mergePatch t (.obj pkvs)) = some (mergePatch ((getKey k t).getD .null) pv) := by
  rw [mergePatch_obj_eq, getKey, lookup_mergePatchO_mem hnull pkvs hn _ h]
  cases t <;> rfl

theorem getKey_mergePatch_none {k : String} {pkvs : Fields} (h : JVal.lookup k pkvs = none) (t : JVal) :
    getKey k (mergePatch t (.obj pkvs)) = getKey k t := by
  rw [mergePatch_obj_eq, getKey, lookup_mergePatchO_of_none pkvs _ h]
  cases t <;> rfl

theorem ownerRefsOf_mergePatch (live : JVal) {pkvs pm : Fields} (hn : (JVal.keys pkvs).Nodup)
    (hm : JVal.lookup "metadata" pkvs = some (.obj pm)) (hmn : (JVal.keys pm).Nodup) :
    (∀ refs, JVal.lookup "ownerReferences" pm = some (.arr refs) →
        ownerRefsOf (mergePatch live (.obj pkvs)) = refs) ∧
    (JVal.lookup "ownerReferences" pm = none →
        ownerRefsOf (mergePatch live (.obj pkvs)) = ownerRefsOf live) := by
  have hmeta := getKey_mergePatch_mem hn hm nofun live
  constructor
  · intro refs hr
    rw [ownerRefsOf, metaKey, hmeta, Option.bind_some, getKey_mergePatch_mem hmn hr nofun,
      mergePatch_nonobj _ (.arr refs) rfl]
  · intro hr
    rw [ownerRefsOf, ownerRefsOf, metaKey, metaKey, hmeta, Option.bind_some, getKey_mergePatch_none hr]
    cases getKey "metadata" live <;> rfl

theorem ownerRefsOf_mergePatch_prepareForApi (held : JVal) {enc : JVal → String} {o p : JVal}
    (h : prepareForApi enc o = some p) (hu : Uniq2 o) :
    (∀ refs, metaKey "ownerReferences" o = some (.arr refs) → ownerRefsOf (mergePatch held p) = stripL refs) ∧
    (metaKey "ownerReferences" o = none → ownerRefsOf (mergePatch held p) = ownerRefsOf held) := by
  obtain ⟨kvs, m, a, hs, hm, ha, rfl⟩ := prepareForApi_spec h
  obtain ⟨h1, h2⟩ := uniq2_strip hu kvs hs
  generalize JVal.obj (JVal.insert lastApplied _ a) = x
  have := ownerRefsOf_mergePatch held (nodup_keys_insert _ _ h1) (lookup_insert_self "metadata" _ kvs)
    (nodup_keys_insert "annotations" x (nodup_of_subMap hm h2))
  rw [lookup_insert_ne _ (by simp), ← metaKey_of_subMap hm, ← hs, metaKey_strip (by decide +kernel)] at this
  exact ⟨fun refs hr => this.1 _ (by rw [hr]; rfl), fun hr => this.2 (by rw [hr]; rfl)⟩

theorem ownerRefsOf_krLoaded {c : ApiClass} {stored live : JVal} {ns : Option String}
    (h : krLoaded c stored ns = some live) : ownerRefsOf live = ownerRefsOf stored := by
  unfold ownerRefsOf
  rw [metaKey_krLoaded h (by simp)]

theorem createPayload_owner {enc : JVal → String} {f view ref p : JVal} {cov : Option Step} {so : Bool} {s : String}
    (hu : uidOf ref = .str s) (h : createPayload enc f view cov so ref = some p) :
    (so = true → hasUid (.str s) (ownerRefsOf p) = true) ∧
    ((∀ v, applyCreateOv cov view = some v → hasUid (.str s) (ownerRefsOf (deepOverlay v f)) = false) →
      (hasUid (.str s) (ownerRefsOf p) = true ↔ so = true)) := by
  obtain ⟨v, w, hv, hw, hp⟩ := createPayload_spec h
  rw [ownerRefsOf_prepareForApi hp, hasUid_stripL]
  rcases withOwner_spec hw with ⟨rfl, rfl⟩ | ⟨rfl, refs, hr, hs⟩
  · exact ⟨(nomatch ·), fun hT => by rw [hT v hv]⟩
  · have := ownerRefsOf_setMetaKey hs ▸ updatedOwnerRefs_hasUid hu hr
    exact ⟨fun _ => this, fun _ => ⟨fun _ => rfl, fun _ => this⟩⟩

/-- `live` is what the load saw (the patch payload is built from it), `held` what the server holds when the PATCH
    arrives: the two need not be the same object -/
theorem patch_merged_refs {enc : JVal → String} {expected live ref p : JVal} {so : Bool} (held : JVal)
    (hU : Uniq2 expected)
    (h : patchPayload enc expected live ref so (if so then ownerReffed live ref else true) = some p) :
    ownerRefsOf (mergePatch held p) =
      if so = true ∧ ownerReffed live ref = false then stripL (ownerRefsOf live) ++ [strip ref]
      else ownerRefsOf held := by
  obtain ⟨w, hw, hp⟩ := patchPayload_spec h
  unfold patchView at hw
  split
  next hc =>
    -- the view is `withOwner true live ref expected`
    rw [hc.1, hc.2] at hw
    obtain ⟨refs, hrefs, hs⟩ := Option.bind_eq_some_iff.mp hw
    rw [(ownerRefsOf_mergePatch_prepareForApi held hp (uniq2_setMetaKey hs hU)).1 _ (metaKey_setMetaKey_self hs),
      updatedOwnerRefs_eq hrefs, ownerReffed_false hc.2, if_neg Bool.false_ne_true, stripL_append]
    rfl
  next hc =>
    -- the view is the target without its `ownerReferences`
    rw [if_neg (by revert hc; cases so <;> simp)] at hw
    exact (ownerRefsOf_mergePatch_prepareForApi held hp (uniq2_dropMetaKey hw hU)).2 (metaKey_dropMetaKey_self hw hU)

/-- What the cluster holds under the request's address once the server has handled the request,
    given what it holds when the request ARRIVES (`now` — which need not be what the load saw:
    somebody else may have created or removed the object in between).  cluster.py `_apply`: a POST
    onto an existing object is answered 409 and changes nothing, a PATCH is an RFC 7386 merge-patch
    (404 when there is nothing to patch), a DELETE removes. -/
def serverAfter (now : Option JVal) : Option Request → Option JVal
  | none => now
  | some r =>
    match r.method, now with
    | .post, none => r.body
    | .post, some o => some o
    | .patch, some o => some (match r.body with | some b => mergePatch o b | none => o)
    | .patch, none => none
    | .delete, _ => none

end Koreo.Rf
