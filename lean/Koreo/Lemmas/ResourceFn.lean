/-
  The decision table `ResourceFn.decide` and the payload-level model `reconcile` it abstracts.  The
  cascade of `decideCore` is read branch by branch (the guards give the result) and row by row (`Row`:
  the result gives the guards back); `reconcileKrm`, the same cascade with payloads and requests, gets a
  case principle with one continuation per exit (`reconcileKrm_cases`), from which `reconcile` is shown to
  follow the table here and the origin of every request is read off in Lemmas/Pipeline.lean.
  (The lemma namespace `Koreo.Rf` is not the structure `Koreo.ResourceFn.Rf`.)
-/
import Koreo.ResourceFn
namespace Koreo.Rf
open Koreo JVal Koreo.Identity Koreo.Payload Koreo.ResourceFn

theorem decide_eq (c : Cfg) (s : Situation) :
    ResourceFn.decide c s =
      if s.mutationRejected && (decideCore c s).1.isMutation then ((decideCore c s).1, .raised)
      else decideCore c s := rfl

theorem decide_fst (c : Cfg) (s : Situation) : (ResourceFn.decide c s).1 = (decideCore c s).1 := by
  rw [decide_eq]; split <;> rfl

theorem decide_of_not_rejected (c : Cfg) (s : Situation) (h : s.mutationRejected = false) :
    ResourceFn.decide c s = decideCore c s := by
  simp [ResourceFn.decide, h]

/-- `resource_match and owner_reffed`: nothing to update -/
def inSync (c : Cfg) (s : Situation) : Bool :=
  !s.isDrifted && (if c.shouldOwn then !s.lacksOwnerRef else true)

section cascade
variable {c : Cfg} {s : Situation}

theorem decideCore_gate (hp : c.precondPass = false) : decideCore c s = (.noApiAtAll, .precond) := by
  simp [decideCore, hp]

theorem decideCore_deleteMode (hp : c.precondPass = true) (hd : c.deleteIfExists = true) :
    decideCore c s = if s.isAbsent then (.none, .ok) else (.delete, .retry) := by
  simp [decideCore, hp, hd]

theorem decideCore_absent (hp : c.precondPass = true) (hd : c.deleteIfExists = false) (ha : s.isAbsent = true) :
    decideCore c s = if c.readonly || !c.createEnabled then (.none, .retry) else (.create, .retry) := by
  simp [decideCore, hp, hd, ha]

theorem decideCore_readonly (hp : c.precondPass = true) (hd : c.deleteIfExists = false) (ha : s.isAbsent = false)
    (hr : c.readonly = true) : decideCore c s = (.none, .ok) := by
  simp [decideCore, hp, hd, ha, hr]

theorem decideCore_managed (hp : c.precondPass = true) (hd : c.deleteIfExists = false) (ha : s.isAbsent = false)
    (hr : c.readonly = false) :
    decideCore c s =
      if inSync c s then (.none, .ok)
      else match c.policy with
        | .never => (.none, .ok)
        | .recreate => (.delete, .retry)
        | .patch => (.patch, .retry) := by
  cases hpol : c.policy <;> simp [decideCore, inSync, hp, hd, ha, hr, hpol]

/-- one constructor per exit of the cascade: the guards passed and the result -/
inductive Row (c : Cfg) (s : Situation) (r : Action × OutcomeClass) : Prop
  | gate (hp : c.precondPass = false) (e : r = (.noApiAtAll, .precond))
  | deleteDone (hp : c.precondPass = true) (hd : c.deleteIfExists = true) (ha : s.isAbsent = true)
      (e : r = (.none, .ok))
  | deleteMode (hp : c.precondPass = true) (hd : c.deleteIfExists = true) (ha : s.isAbsent = false)
      (e : r = (.delete, .retry))
  | waitReadonly (hp : c.precondPass = true) (hd : c.deleteIfExists = false) (ha : s.isAbsent = true)
      (hr : c.readonly = true) (e : r = (.none, .retry))
  | waitNoCreate (hp : c.precondPass = true) (hd : c.deleteIfExists = false) (ha : s.isAbsent = true)
      (hr : c.readonly = false) (hc : c.createEnabled = false) (e : r = (.none, .retry))
  | create (hp : c.precondPass = true) (hd : c.deleteIfExists = false) (ha : s.isAbsent = true)
      (hr : c.readonly = false) (hc : c.createEnabled = true) (e : r = (.create, .retry))
  | readonly (hp : c.precondPass = true) (hd : c.deleteIfExists = false) (ha : s.isAbsent = false)
      (hr : c.readonly = true) (e : r = (.none, .ok))
  | inSync (hp : c.precondPass = true) (hd : c.deleteIfExists = false) (ha : s.isAbsent = false)
      (hr : c.readonly = false) (hu : inSync c s = true) (e : r = (.none, .ok))
  | never (hp : c.precondPass = true) (hd : c.deleteIfExists = false) (ha : s.isAbsent = false)
      (hr : c.readonly = false) (hu : inSync c s = false) (hpol : c.policy = .never) (e : r = (.none, .ok))
  | recreate (hp : c.precondPass = true) (hd : c.deleteIfExists = false) (ha : s.isAbsent = false)
      (hr : c.readonly = false) (hu : inSync c s = false) (hpol : c.policy = .recreate)
      (e : r = (.delete, .retry))
  | patch (hp : c.precondPass = true) (hd : c.deleteIfExists = false) (ha : s.isAbsent = false)
      (hr : c.readonly = false) (hu : inSync c s = false) (hpol : c.policy = .patch) (e : r = (.patch, .retry))

theorem decideCore_row (c : Cfg) (s : Situation) : Row c s (decideCore c s) := by
  cases hp : c.precondPass
  · exact .gate hp (decideCore_gate hp)
  cases hd : c.deleteIfExists
  · cases ha : s.isAbsent
    · cases hr : c.readonly
      · have e := decideCore_managed hp hd ha hr
        cases hu : Rf.inSync c s <;> rw [hu] at e
        · cases hpol : c.policy <;> rw [hpol] at e
          · exact .patch hp hd ha hr hu hpol e
          · exact .recreate hp hd ha hr hu hpol e
          · exact .never hp hd ha hr hu hpol e
        · exact .inSync hp hd ha hr hu e
      · exact .readonly hp hd ha hr (decideCore_readonly hp hd ha hr)
    · have e := decideCore_absent (s := s) hp hd ha
      cases hr : c.readonly
      · cases hc : c.createEnabled <;> rw [hr, hc] at e
        · exact .waitNoCreate hp hd ha hr hc e
        · exact .create hp hd ha hr hc e
      · rw [hr] at e
        exact .waitReadonly hp hd ha hr e
  · have e := decideCore_deleteMode (s := s) hp hd
    cases ha : s.isAbsent <;> rw [ha] at e
    · exact .deleteMode hp hd ha e
    · exact .deleteDone hp hd ha e

end cascade

theorem inSync_eq_false_iff (c : Cfg) (s : Situation) : inSync c s = false ↔
    (s.isDrifted = true ∨ (s = .presentNoOwnerRef ∧ c.owned = true ∧ c.namespaced = true)) := by
  cases s <;> simp [inSync, Situation.isDrifted, Situation.lacksOwnerRef, Cfg.shouldOwn]

theorem inSync_of_absent {c : Cfg} {s : Situation} (h : s.isAbsent = true) : inSync c s = true := by
  cases s <;> simp_all [inSync, Situation.isAbsent, Situation.isDrifted, Situation.lacksOwnerRef]

theorem not_rejected_of_absent {s : Situation} (h : s.isAbsent = true) : s.mutationRejected = false := by
  cases s <;> simp_all [Situation.isAbsent, Situation.mutationRejected]

-- each of the following reads one action (or outcome) off the eleven rows

theorem noApi_iff (c : Cfg) (s : Situation) :
    (ResourceFn.decide c s).1 = .noApiAtAll ↔ c.precondPass = false := by
  rw [decide_fst]
  cases decideCore_row c s <;> simp_all

theorem create_iff (c : Cfg) (s : Situation) :
    (ResourceFn.decide c s).1 = .create ↔
      (c.precondPass = true ∧ c.deleteIfExists = false ∧ c.readonly = false ∧ c.createEnabled = true ∧
        s.isAbsent = true) := by
  rw [decide_fst]
  cases decideCore_row c s <;> simp_all

theorem patch_iff (c : Cfg) (s : Situation) :
    (ResourceFn.decide c s).1 = .patch ↔
      (c.precondPass = true ∧ c.deleteIfExists = false ∧ c.readonly = false ∧ c.policy = .patch ∧
        (s.isDrifted = true ∨ (s = .presentNoOwnerRef ∧ c.owned = true ∧ c.namespaced = true))) := by
  rw [decide_fst, ← inSync_eq_false_iff]
  cases decideCore_row c s <;> simp_all [inSync_of_absent]

theorem delete_iff (c : Cfg) (s : Situation) :
    (ResourceFn.decide c s).1 = .delete ↔
      (c.precondPass = true ∧ s.isAbsent = false ∧
        (c.deleteIfExists = true ∨ (c.readonly = false ∧ c.policy = .recreate ∧
          (s.isDrifted = true ∨ (s = .presentNoOwnerRef ∧ c.owned = true ∧ c.namespaced = true))))) := by
  rw [decide_fst, ← inSync_eq_false_iff]
  cases decideCore_row c s <;> simp_all

theorem decideCore_ne_raised (c : Cfg) (s : Situation) : (decideCore c s).2 ≠ .raised := by
  cases decideCore_row c s <;> simp_all

theorem raised_iff (c : Cfg) (s : Situation) :
    (ResourceFn.decide c s).2 = .raised ↔ (s.mutationRejected = true ∧ (decideCore c s).1.isMutation = true) := by
  rw [decide_eq]
  split
  next hc => exact iff_of_true rfl (Bool.and_eq_true _ _ ▸ hc)
  next hc => exact iff_of_false (decideCore_ne_raised c s) (Bool.and_eq_true _ _ ▸ hc)

theorem decideCore_mutation_retry (c : Cfg) (s : Situation) (h : (decideCore c s).1.isMutation = true) :
    (decideCore c s).2 = .retry := by
  cases decideCore_row c s <;> simp_all [Action.isMutation]

section gates
variable (enc : JVal → String) (defNs : String) (cmp : JVal → JVal → Bool) (rf : Rf) (owner : Owner)
  (stored : Option JVal)

theorem reconcile_gate : reconcile enc defNs cmp false rf owner stored = ⟨.noApiAtAll, some .precond, none⟩ := rfl

theorem reconcile_noNamespace (hw : (rf.api.namespaced && rf.ns.isNone) = true) :
    reconcile enc defNs cmp true rf owner stored = ⟨.noApiAtAll, some .permFail, none⟩ := by
  simp [reconcile, hw]

theorem reconcile_krm (hw : (rf.api.namespaced && rf.ns.isNone) = false) :
    reconcile enc defNs cmp true rf owner stored = reconcileKrm enc defNs cmp rf owner stored := by
  simp [reconcile, hw]

end gates

def loadedOf (rf : Rf) (stored : Option JVal) : Option JVal := stored.bind fun o => krLoaded rf.api o rf.ns

theorem loadedOf_some (rf : Rf) (o : JVal) : loadedOf rf (some o) = krLoaded rf.api o rf.ns := rfl

/-- `failed` stands for every exit at which materialising the target or building the request did not succeed. -/
theorem reconcileKrm_cases {P : Run → Prop} (enc : JVal → String) (defNs : String) (cmp : JVal → JVal → Bool)
    (rf : Rf) (owner : Owner) (stored : Option JVal)
    (failed : P failedRun)
    (deleteDone : loadedOf rf stored = none → rf.deleteIfExists = true → P ⟨.none, some .ok, none⟩)
    (wait : loadedOf rf stored = none → rf.deleteIfExists = false → (rf.readonly || !rf.createEnabled) = true →
      P ⟨.none, some .retry, none⟩)
    (create : loadedOf rf stored = none → rf.deleteIfExists = false → (rf.readonly || !rf.createEnabled) = false →
      ∀ view p req, materialise (forced rf.target) rf.tmpl rf.steps = some view →
      createPayload enc (forced rf.target) view rf.createOv (rf.owned && owner.ns == rf.ns) owner.ref = some p →
      createRequest rf.api defNs p rf.ns = some req → P ⟨.create, some .retry, some req⟩)
    (deleteMode : ∀ live req, loadedOf rf stored = some live → rf.deleteIfExists = true →
      deleteRequest rf.api defNs live = some req → P ⟨.delete, some .retry, some req⟩)
    (readonly : ∀ live, loadedOf rf stored = some live → rf.deleteIfExists = false → rf.readonly = true →
      P ⟨.none, some .ok, none⟩)
    (inSync : ∀ live expected, loadedOf rf stored = some live → rf.deleteIfExists = false → rf.readonly = false →
      materialise (forced rf.target) rf.tmpl rf.steps = some expected →
      (cmp expected live && if (rf.owned && owner.ns == rf.ns) then ownerReffed live owner.ref else true) = true →
      P ⟨.none, some .ok, none⟩)
    (never : ∀ live expected, loadedOf rf stored = some live → rf.deleteIfExists = false → rf.readonly = false →
      materialise (forced rf.target) rf.tmpl rf.steps = some expected →
      (cmp expected live && if (rf.owned && owner.ns == rf.ns) then ownerReffed live owner.ref else true) = false →
      rf.policy = .never → P ⟨.none, some .ok, none⟩)
    (recreate : ∀ live expected req, loadedOf rf stored = some live → rf.deleteIfExists = false →
      rf.readonly = false → materialise (forced rf.target) rf.tmpl rf.steps = some expected →
      (cmp expected live && if (rf.owned && owner.ns == rf.ns) then ownerReffed live owner.ref else true) = false →
      rf.policy = .recreate → deleteRequest rf.api defNs live = some req → P ⟨.delete, some .retry, some req⟩)
    (patch : ∀ live expected p req, loadedOf rf stored = some live → rf.deleteIfExists = false →
      rf.readonly = false → materialise (forced rf.target) rf.tmpl rf.steps = some expected →
      (cmp expected live && if (rf.owned && owner.ns == rf.ns) then ownerReffed live owner.ref else true) = false →
      rf.policy = .patch →
      patchPayload enc expected live owner.ref (rf.owned && owner.ns == rf.ns)
        (if (rf.owned && owner.ns == rf.ns) then ownerReffed live owner.ref else true) = some p →
      patchRequest rf.api defNs live p = some req → P ⟨.patch, some .retry, some req⟩) :
    P (reconcileKrm enc defNs cmp rf owner stored) := by
  -- binders in the order of the definition: its `let`s (`_`), the loaded object, the guards passed on the way, the
  -- target, the comparison, the policy, the request; a guard that was not taken comes as `¬ b = true`
  fun_cases reconcileKrm enc defNs cmp rf owner stored
  case case1 hl hd => exact deleteDone hl hd
  case case2 hl hd hrc => exact wait hl (eq_false_of_ne_true hd) hrc
  case case3 _ _ hl hd hrc req hq =>
    obtain ⟨view, hv, hq⟩ := Option.bind_eq_some_iff.mp hq
    obtain ⟨p, hp, hq⟩ := Option.bind_eq_some_iff.mp hq
    exact create hl (eq_false_of_ne_true hd) (eq_false_of_ne_true hrc) view p req hv hp hq
  case case5 live hl hd req hq => exact deleteMode live req hl hd hq
  case case7 live hl hd hr => exact readonly live hl (eq_false_of_ne_true hd) hr
  case case9 _ _ live hl hd hr expected he _ hm =>
    exact inSync live expected hl (eq_false_of_ne_true hd) (eq_false_of_ne_true hr) he hm
  case case10 _ _ live hl hd hr expected he _ hm hpol =>
    exact never live expected hl (eq_false_of_ne_true hd) (eq_false_of_ne_true hr) he (eq_false_of_ne_true hm) hpol
  case case11 _ _ live hl hd hr expected he _ hm hpol req hq =>
    exact recreate live expected req hl (eq_false_of_ne_true hd) (eq_false_of_ne_true hr) he
      (eq_false_of_ne_true hm) hpol hq
  case case13 _ _ live hl hd hr expected he _ hm hpol req hq =>
    obtain ⟨p, hp, hq⟩ := Option.bind_eq_some_iff.mp hq
    exact patch live expected p req hl (eq_false_of_ne_true hd) (eq_false_of_ne_true hr) he
      (eq_false_of_ne_true hm) hpol hp hq
  case case4 | case6 | case8 | case12 | case14 => exact failed

/-- the conclusion of `reconcile_follows_table` as a predicate on the run, so that `reconcileKrm_cases` can take it
    as its motive -/
def Follows (c : Cfg) (absent : Prop) (run : Run) : Prop :=
  (run.action = .none ∧ run.outcome = none ∧ run.request.isNone) ∨
  ∃ s, (run.action, run.outcome) = ((ResourceFn.decide c s).1, some (ResourceFn.decide c s).2) ∧
    (s = .absent ↔ absent)

theorem Follows.failed {c : Cfg} {absent : Prop} : Follows c absent failedRun := .inl ⟨rfl, rfl, rfl⟩

theorem Follows.cell {c : Cfg} {absent : Prop} {a : Action} {o : OutcomeClass} {req : Option Request}
    (s : Situation) (hs : s.mutationRejected = false) (hl : s = .absent ↔ absent)
    (hc : decideCore c s = (a, o)) : Follows c absent ⟨a, some o, req⟩ :=
  .inr ⟨s, by rw [decide_of_not_rejected c s hs, hc], hl⟩

theorem situationOf_present (cmp : JVal → JVal → Bool) (expected ref live : JVal) :
    (situationOf cmp expected ref (some live)).isAbsent = false ∧
    (situationOf cmp expected ref (some live)).mutationRejected = false ∧
    situationOf cmp expected ref (some live) ≠ .absent := by
  cases h1 : cmp expected live <;> cases h2 : ownerReffed live ref <;>
    simp [situationOf, h1, h2, Situation.isAbsent, Situation.mutationRejected]

theorem inSync_situationOf (c : Cfg) (cmp : JVal → JVal → Bool) (expected ref live : JVal) :
    inSync c (situationOf cmp expected ref (some live)) =
      (cmp expected live && if c.shouldOwn then ownerReffed live ref else true) := by
  cases h1 : cmp expected live <;> cases h2 : ownerReffed live ref <;>
    simp [situationOf, h1, h2, inSync, Situation.isDrifted, Situation.lacksOwnerRef]

/-- The table's setting: `hns` — the parent lives in the object's namespace exactly when the kind is namespaced
    (the table's `shouldOwn` is `owned && namespaced`, `reconcileKrm` compares the two namespaces); `hw` — apiConfig
    gave a namespace to a namespaced kind, so the second gate of `reconcile` does not stop the run. -/
theorem reconcile_follows_table (enc : JVal → String) (defNs : String) (cmp : JVal → JVal → Bool)
    (pp : Bool) (rf : Rf) (owner : Owner) (stored : Option JVal)
    (hns : (owner.ns == rf.ns) = rf.api.namespaced) (hw : (rf.api.namespaced && rf.ns.isNone) = false) :
    let run := reconcile enc defNs cmp pp rf owner stored
    (run.action = .none ∧ run.outcome = none ∧ run.request.isNone) ∨
    ∃ s, (run.action, run.outcome) = ((ResourceFn.decide (rf.cfg pp) s).1, some (ResourceFn.decide (rf.cfg pp) s).2) ∧
      (s = .absent ↔ (stored.bind fun o => krLoaded rf.api o rf.ns) = none) := by
  show Follows (rf.cfg pp) (loadedOf rf stored = none) (reconcile enc defNs cmp pp rf owner stored)
  cases pp
  · -- the gate: the table does not look at the situation
    rw [reconcile_gate]
    cases hl : loadedOf rf stored
    · exact .cell .absent rfl (iff_of_true rfl rfl) (decideCore_gate rfl)
    · exact .cell .presentMatching rfl (iff_of_false nofun nofun) (decideCore_gate rfl)
  rw [reconcile_krm _ _ _ _ _ _ hw]
  -- a present object is looked at through `situationOf`, whose cell is the managed branch of the cascade
  have managed {live expected : JVal} {b : Bool} (hd : rf.deleteIfExists = false) (hr : rf.readonly = false)
      (hm : (cmp expected live && if (rf.owned && owner.ns == rf.ns) then ownerReffed live owner.ref else true) = b) :
      decideCore (rf.cfg true) (situationOf cmp expected owner.ref (some live)) =
        if b then (.none, .ok) else match rf.policy with
          | .never => (.none, .ok)
          | .recreate => (.delete, .retry)
          | .patch => (.patch, .retry) := by
    rw [decideCore_managed rfl hd (situationOf_present ..).1 hr, inSync_situationOf, ← hm, hns]
    rfl
  have present {live : JVal} (hl : loadedOf rf stored = some live) {s : Situation} (hs : s ≠ .absent) :
      s = .absent ↔ loadedOf rf stored = none := iff_of_false hs (by rw [hl]; nofun)
  have cell {live expected : JVal} {a : Action} {o : OutcomeClass} {req : Option Request}
      (hl : loadedOf rf stored = some live)
      (hc : decideCore (rf.cfg true) (situationOf cmp expected owner.ref (some live)) = (a, o)) :
      Follows (rf.cfg true) (loadedOf rf stored = none) ⟨a, some o, req⟩ :=
    .cell _ (situationOf_present ..).2.1 (present hl (situationOf_present ..).2.2) hc
  exact reconcileKrm_cases (P := Follows (rf.cfg true) (loadedOf rf stored = none)) enc defNs cmp rf owner stored
    (failed := .failed)
    (deleteDone := fun hl hd => .cell .absent rfl (iff_of_true rfl hl) (decideCore_deleteMode rfl hd))
    (wait := fun hl hd hrc =>
      .cell .absent rfl (iff_of_true rfl hl) ((decideCore_absent rfl hd rfl).trans (if_pos hrc)))
    (create := fun hl hd hrc _ _ _ _ _ _ =>
      .cell .absent rfl (iff_of_true rfl hl)
        ((decideCore_absent rfl hd rfl).trans (if_neg (hrc ▸ Bool.false_ne_true))))
    -- the next two exits never look at the target: every non-absent situation has the same cell there
    (deleteMode := fun _ _ hl hd _ =>
      .cell .presentMatching rfl (present hl nofun) (decideCore_deleteMode rfl hd))
    (readonly := fun _ hl hd hr =>
      .cell .presentMatching rfl (present hl nofun) (decideCore_readonly rfl hd rfl hr))
    (inSync := fun _ _ hl hd hr _ hm => cell hl (managed hd hr hm))
    (never := fun _ _ hl hd hr _ hm hpol => cell hl (hpol ▸ managed hd hr hm))
    (recreate := fun _ _ _ hl hd hr _ hm hpol _ => cell hl (hpol ▸ managed hd hr hm))
    (patch := fun _ _ _ _ hl hd hr _ hm hpol _ _ => cell hl (hpol ▸ managed hd hr hm))

end Koreo.Rf
