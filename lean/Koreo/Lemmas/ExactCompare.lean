/-
  C19 — specification of "equal modulo compare directives" (`EqMod`) and the lemmas that relate the
  runner's exact comparator (`Koreo/ExactCompare.lean`) to it.  Property theorems are in `Props/C19.lean`.

  The comparator is four mutually recursive functions over the nested type `JVal`.  Its correctness is not
  proved by a matching mutual recursion (compiling one over `JVal` costs far more than checking the
  proofs): the loops over lists are ordinary list inductions that assume `Decides` of the members, and
  `JVal.induct` ties them together.  `cmpVal` names the dispatch over `modeOf` that `dictFwd` inlines.
  Two maps, and two map-directed lists, are compared as partial maps (`Agree`, under `lookup` and under
  `lastWith`); `agree_iff` splits that into the loop over the target and the loop over the actual value.

  `isStr`, `wfL`, `wfO`, `scalarEq_refl`, `scalarEq_scalar_right` here (and `isScalar`, `scalarEq`, `memberKey`,
  `objKey`, `pyStr`, `pyStrip`, `Mode`, `setMatch` in the model) have namesakes in `Koreo.Compare`, the
  ResourceFunction comparator of C04/C05, where `nodupKeys` is `keysNoDup` and `wf` is `wfB`.  They are
  deliberate copies: the C19 slice does not import that model.  Do not `open` both namespaces.
-/
import Koreo.ExactCompare
import Koreo.Lemmas.Json

namespace Koreo.Exact
open Koreo JVal

def SetEq (ts as : List JVal) : Prop :=
  (∀ x ∈ ts, isScalar x = true) ∧ (∀ y ∈ as, isScalar y = true) ∧
  (∀ x ∈ ts, ∃ y ∈ as, scalarEq x y = true) ∧ (∀ y ∈ as, ∃ x ∈ ts, scalarEq x y = true)

/-- `t` is the expected value, `a` the actual one; the directives are those written in `t` alone.

    The map constructor has five premises: the keys, then `CmpSpec` with its `KeyedEq` written out clause
    by clause (the relation being defined may not occur under a definition applied to it).  Proofs do not
    take the five apart; they go through `eqmod_obj_iff`. -/
inductive EqMod : JVal → JVal → Prop
  | scalar {t a : JVal} : isScalar t = true → scalarEq t a = true → EqMod t a
  | arr {ts as : List JVal} :
      ts.length = as.length →
      (∀ (i : Nat) (t a : JVal), ts[i]? = some t → as[i]? = some a → EqMod t a) →
      EqMod (.arr ts) (.arr as)
  | obj {t a : List (String × JVal)} :
      (∀ k, isDirective k = false → ((lookup k t).isSome ↔ (lookup k a).isSome)) →
      (∀ k v w, isDirective k = false → lookup k t = some v → lookup k a = some w →
        modeOf (setKeysOf t) (mapKeysOf t) k v w = .plain → EqMod v w) →
      (∀ k v w, isDirective k = false → lookup k t = some v → lookup k a = some w →
        ∀ ts as, modeOf (setKeysOf t) (mapKeysOf t) k v w = .set ts as → SetEq ts as) →
      (∀ k v w, isDirective k = false → lookup k t = some v → lookup k a = some w →
        ∀ fs ts as, modeOf (setKeysOf t) (mapKeysOf t) k v w = .keyed fs ts as →
          ∀ κ, isDirective κ = false → ((lastWith fs κ ts).isSome ↔ (lastWith fs κ as).isSome)) →
      (∀ k v w, isDirective k = false → lookup k t = some v → lookup k a = some w →
        ∀ fs ts as, modeOf (setKeysOf t) (mapKeysOf t) k v w = .keyed fs ts as →
          ∀ κ x y, isDirective κ = false → lastWith fs κ ts = some x → lastWith fs κ as = some y →
            EqMod x y) →
      EqMod (.obj t) (.obj a)

def nodupKeys : List (String × JVal) → Bool
  | [] => true
  | (k, _) :: rest => (lookup k rest).isNone && nodupKeys rest

def isStr : JVal → Bool
  | .str _ => true
  | _ => false

/-- the shape the CRDs document for the two directive entries -/
def dirShape (kvs : List (String × JVal)) : Bool :=
  (match lookup compareAsSet kvs with
   | none => true
   | some (.arr xs) => xs.all isStr
   | some _ => false) &&
  (match lookup compareAsMap kvs with
   | none => true
   | some (.obj kfs) => kfs.all fun kf => match kf.2 with
     | .arr fs => fs.all isStr
     | _ => false
   | some _ => false) &&
  (mapKeysOf kvs).all fun kf =>
    match lookup kf.1 kvs with
    | some (.arr ts) => ts.all fun t => !isDirective (memberKey kf.2 t)
    | _ => true

mutual
/-- unique keys are what a Python `dict` guarantees, and all that the proofs use; `dirShape` marks the domain on
    which the model claims to follow the code -/
def wf : JVal → Bool
  | .obj kvs => nodupKeys kvs && dirShape kvs && wfO kvs
  | .arr xs => wfL xs
  | _ => true
def wfL : List JVal → Bool
  | [] => true
  | x :: xs => wf x && wfL xs
def wfO : List (String × JVal) → Bool
  | [] => true
  | (_, v) :: rest => wf v && wfO rest
end

def DirectivesWF (t : JVal) : Prop := wf t = true

instance (t : JVal) : Decidable (DirectivesWF t) := by unfold DirectivesWF; infer_instance

theorem wfL_iff : ∀ {xs : List JVal}, wfL xs = true ↔ ∀ x ∈ xs, wf x = true
  | [] => by simp [wfL]
  | y :: ys => by simp [wfL, wfL_iff (xs := ys)]

theorem wfO_iff : ∀ {kvs : List (String × JVal)}, wfO kvs = true ↔ ∀ kv ∈ kvs, wf kv.2 = true
  | [] => by simp [wfO]
  | (k, v) :: rest => by simp [wfO, wfO_iff (kvs := rest)]

theorem nodupKeys_iff : ∀ {kvs : List (String × JVal)}, nodupKeys kvs = true ↔ (keys kvs).Nodup
  | [] => by simp [nodupKeys, keys]
  | (k, v) :: rest => by
    rw [nodupKeys, nodup_keys_cons, Bool.and_eq_true, nodupKeys_iff, Option.isNone_iff_eq_none,
      lookup_eq_none_iff]

theorem wf_obj_iff {o : List (String × JVal)} :
    wf (.obj o) = true ↔ (keys o).Nodup ∧ dirShape o = true ∧ ∀ kv ∈ o, wf kv.2 = true := by
  rw [wf, Bool.and_eq_true, Bool.and_eq_true, nodupKeys_iff, wfO_iff, and_assoc]

theorem wf_lookup {o : List (String × JVal)} {k : String} {v : JVal}
    (h : wf (.obj o) = true) (hl : lookup k o = some v) : wf v = true :=
  (wf_obj_iff.1 h).2.2 (k, v) (lookup_mem hl)

theorem exactMatch_scalar : ∀ (t a : JVal), isScalar t = true → exactMatch t a = scalarEq t a := by
  intro t a h
  cases t <;> first | contradiction | (cases a <;> first | rfl | skip)
  -- two integers: `pyEq` compares them in eighths
  case int.int n m =>
    show (n * 8 == m * 8) = (n == m)
    rw [Bool.eq_iff_iff]; simp only [beq_iff_eq]; omega
theorem scalarEq_scalar_right {t a : JVal} (h : scalarEq t a = true) : isScalar a = true := by
  cases a with
  | arr _ | obj _ => cases t <;> cases h
  | _ => rfl
theorem eqmod_scalar_iff {t a : JVal} (h : isScalar t = true) : EqMod t a ↔ scalarEq t a = true := by
  refine ⟨fun e => ?_, EqMod.scalar h⟩
  cases e with
  | scalar _ h2 => exact h2
  | _ => cases h

def ListSpec (ts as : List JVal) : Prop :=
  ∀ (i : Nat) (t a : JVal), ts[i]? = some t → as[i]? = some a → EqMod t a

theorem eqmod_arr_iff {ts : List JVal} {w : JVal} :
    EqMod (.arr ts) w ↔ ∃ as, w = .arr as ∧ ts.length = as.length ∧ ListSpec ts as := by
  constructor
  · intro e
    cases e with
    | scalar h _ => cases h
    | arr hl hall => exact ⟨_, rfl, hl, hall⟩
  · rintro ⟨as, rfl, hl, hall⟩
    exact EqMod.arr hl hall

theorem setMatch_iff (ts as : List JVal) : setMatch ts as = true ↔ SetEq ts as := by
  simp only [setMatch, SetEq, Bool.and_eq_true, List.all_eq_true, List.any_eq_true, and_assoc]

theorem lastWith_cons (fs : List JVal) (κ : String) (t : JVal) (rest : List JVal) :
    lastWith fs κ (t :: rest) = (lastWith fs κ rest).or (if memberKey fs t = κ then some t else none) := by
  rw [lastWith]; cases lastWith fs κ rest <;> rfl

theorem lastWith_mem {fs : List JVal} {κ : String} {xs : List JVal} {x : JVal}
    (h : lastWith fs κ xs = some x) : x ∈ xs ∧ memberKey fs x = κ := by
  fun_induction lastWith fs κ xs <;> simp_all

theorem lastWith_isSome_iff {fs : List JVal} {κ : String} {xs : List JVal} :
    (lastWith fs κ xs).isSome = true ↔ ∃ x ∈ xs, memberKey fs x = κ := by
  -- no member; a later member has the key; this one is the last with it; neither
  fun_induction lastWith fs κ xs with
  | case1 => simp
  | case2 x rest y hy ih => simp [← ih, hy]
  | case3 x rest hn hk ih => simp [hk]
  | case4 x rest hn hk ih => simp [← ih, hn, hk]

theorem keyedBack_iff (fs : List JVal) (ts as : List JVal) :
    keyedBack fs ts as = true ↔
      ∀ κ, isDirective κ = false → (lastWith fs κ as).isSome = true → (lastWith fs κ ts).isSome = true := by
  simp only [keyedBack, List.all_eq_true, Bool.or_eq_true, Decidable.or_iff_not_imp_left, Bool.not_eq_true,
    lastWith_isSome_iff (xs := as)]
  exact ⟨fun h κ hd ⟨y, hy, hk⟩ => hk ▸ h y hy (hk ▸ hd), fun h y hy hd => h _ hd ⟨y, hy, rfl⟩⟩

section Agree
variable {κ α β : Type} {D : κ → Prop} {R : κ → α → β → Prop} {f : κ → Option α} {g : κ → Option β}

/-- what `EqMod` says of two maps (read by `lookup`) and of two map-directed lists (read by `lastWith`) -/
def Agree (D : κ → Prop) (R : κ → α → β → Prop) (f : κ → Option α) (g : κ → Option β) : Prop :=
  (∀ k, D k → ((f k).isSome ↔ (g k).isSome)) ∧ ∀ k x y, D k → f k = some x → g k = some y → R k x y

theorem agree_iff : Agree D R f g ↔
    (∀ k x, D k → f k = some x → ∃ y, g k = some y ∧ R k x y) ∧
    ∀ k, D k → (g k).isSome = true → (f k).isSome = true := by
  constructor
  · intro h
    refine ⟨fun k x hd hx => ?_, fun k hd => (h.1 k hd).mpr⟩
    obtain ⟨y, hy⟩ := Option.isSome_iff_exists.1 ((h.1 k hd).mp (by rw [hx]; rfl))
    exact ⟨y, hy, h.2 k x y hd hx hy⟩
  · rintro ⟨hf, hb⟩
    refine ⟨fun k hd => ⟨fun h => ?_, hb k hd⟩, fun k x y hd hx hy => ?_⟩
    · obtain ⟨x, hx⟩ := Option.isSome_iff_exists.1 h
      obtain ⟨y, hy, _⟩ := hf k x hd hx
      rw [hy]; rfl
    · obtain ⟨y', hy', e⟩ := hf k x hd hx
      rw [hy] at hy'; cases hy'; exact e

end Agree

/-- the two lists as the keyed collections `_list_to_object` builds: a member key goes to the LAST member
    carrying it -/
def KeyedEq (fs : List JVal) (ts as : List JVal) : Prop :=
  Agree (isDirective · = false) (fun _ => EqMod) (lastWith fs · ts) (lastWith fs · as)

/-- the target-side half of `KeyedEq` (`agree_iff`): what `keyedFwd` checks -/
def KFSpec (fs : List JVal) (ts as : List JVal) : Prop :=
  ∀ κ x, isDirective κ = false → lastWith fs κ ts = some x → ∃ y, lastWith fs κ as = some y ∧ EqMod x y

/-- what `_validate_dict_match` requires of the values under a common key -/
def CmpSpec (sk : List String) (mk : List (String × List JVal)) (k : String) (v w : JVal) : Prop :=
  (modeOf sk mk k v w = .plain → EqMod v w) ∧
  (∀ ts as, modeOf sk mk k v w = .set ts as → SetEq ts as) ∧
  (∀ fs ts as, modeOf sk mk k v w = .keyed fs ts as → KeyedEq fs ts as)

theorem cmpSpec_plain {sk : List String} {mk : List (String × List JVal)} {k : String} {v w : JVal}
    (hm : modeOf sk mk k v w = .plain) : CmpSpec sk mk k v w ↔ EqMod v w := by
  unfold CmpSpec; rw [hm]; simp

theorem eqmod_obj_iff {t : List (String × JVal)} {w : JVal} :
    EqMod (.obj t) w ↔ ∃ a, w = .obj a ∧
      Agree (isDirective · = false) (CmpSpec (setKeysOf t) (mapKeysOf t)) (lookup · t) (lookup · a) := by
  constructor
  · intro e
    cases e with
    | scalar h _ => cases h
    | obj h1 h2 h3 h4 h5 =>
      exact ⟨_, rfl, h1, fun k v w hd hv hw => ⟨h2 k v w hd hv hw, h3 k v w hd hv hw,
        fun fs ts as hm => ⟨h4 k v w hd hv hw fs ts as hm, h5 k v w hd hv hw fs ts as hm⟩⟩⟩
  · rintro ⟨a, rfl, h1, h⟩
    exact EqMod.obj h1 (fun k v w hd hv hw => (h k v w hd hv hw).1)
      (fun k v w hd hv hw => (h k v w hd hv hw).2.1)
      (fun k v w hd hv hw fs ts as hm => ((h k v w hd hv hw).2.2 fs ts as hm).1)
      (fun k v w hd hv hw fs ts as hm => ((h k v w hd hv hw).2.2 fs ts as hm).2)

theorem eqmod_obj_left {t : List (String × JVal)} {w : JVal} (e : EqMod (.obj t) w) : ∃ a, w = .obj a :=
  (eqmod_obj_iff.1 e).imp fun _ h => h.1

theorem eqmod_obj_keys {t a : List (String × JVal)} (e : EqMod (.obj t) (.obj a)) {k : String}
    (hd : isDirective k = false) : (lookup k t).isSome ↔ (lookup k a).isSome := by
  obtain ⟨_, ea, h, -⟩ := eqmod_obj_iff.1 e
  cases ea; exact h k hd

def cmpVal (sk : List String) (mk : List (String × List JVal)) (k : String) (v w : JVal) : Bool :=
  match modeOf sk mk k v w with
  | .plain => exactMatch v w
  | .set ts as => setMatch ts as
  | .keyed fs ts as => keyedFwd fs ts as && keyedBack fs ts as

theorem dictFwd_cons (sk : List String) (mk : List (String × List JVal)) (k : String) (v : JVal)
    (rest a : List (String × JVal)) :
    dictFwd sk mk ((k, v) :: rest) a =
      ((isDirective k || (lookup k a).any (cmpVal sk mk k v)) && dictFwd sk mk rest a) := by
  rw [dictFwd]
  congr 1
  cases isDirective k with
  | true => rfl
  | false =>
    cases lookup k a with
    | none => rfl
    | some w =>
      simp only [Bool.false_eq_true, if_false, Bool.false_or, Option.any_some, cmpVal]
      fun_cases modeOf sk mk k v w
      -- not two lists: a list against anything else is `false` in `dictFwd` and in `exactMatch`
      case case6 hna =>
        cases v with
        | arr ts => cases w with
          | arr as => exact (hna _ _ rfl rfl).elim
          | _ => rfl
        | _ => rfl
      -- two lists: the hypotheses of the case are the tests `dictFwd` makes
      all_goals simp only [*, exactMatch, if_true, Bool.false_eq_true, if_false]

theorem modeOf_keyed {sk : List String} {mk : List (String × List JVal)} {k : String} {v w : JVal}
    {fs ts as : List JVal} (h : modeOf sk mk k v w = .keyed fs ts as) : v = .arr ts := by
  revert h
  fun_cases modeOf sk mk k v w <;> intro h <;> cases h
  rfl

def Decides (t : JVal) : Prop := ∀ a, exactMatch t a = true ↔ EqMod t a

/-- `dictFwd` compares the members of a list under a directed key itself, so a map needs the hypothesis
    two levels down -/
def DecidesDeep (t : JVal) : Prop := Decides t ∧ ∀ ts, t = .arr ts → ∀ x ∈ ts, Decides x

theorem listSpec_cons {t a : JVal} {ts as : List JVal} :
    ListSpec (t :: ts) (a :: as) ↔ EqMod t a ∧ ListSpec ts as :=
  ⟨fun h => ⟨h 0 t a rfl rfl, fun i => h (i + 1)⟩,
   fun ⟨h0, h⟩ i t' a' ht ha => by
    cases i with
    | zero => cases ht; cases ha; exact h0
    | succ j => exact h j t' a' ht ha⟩

theorem listMatch_iff_of : ∀ (ts as : List JVal), (∀ t ∈ ts, Decides t) → ts.length = as.length →
    (listMatch ts as = true ↔ ListSpec ts as)
  | [], [], _, _ => by simp [listMatch, ListSpec]
  | t :: ts, a :: as, h, hl => by
    rw [listMatch, Bool.and_eq_true, listSpec_cons, h t (by simp) a,
      listMatch_iff_of ts as (fun t ht => h t (by simp [ht])) (Nat.succ.inj hl)]
  | [], _ :: _, _, hl => by simp at hl
  | _ :: _, [], _, hl => by simp at hl

/-- the right-hand side mirrors the body of `keyedFwd` -/
theorem kfSpec_cons {fs as rest : List JVal} {t : JVal} :
    KFSpec fs (t :: rest) as ↔
      (isDirective (memberKey fs t) = false → lastWith fs (memberKey fs t) rest = none →
        ∃ y, lastWith fs (memberKey fs t) as = some y ∧ EqMod t y) ∧ KFSpec fs rest as := by
  -- `some x` comes from `rest` or, `rest` having none, is `t` itself
  simp only [KFSpec, lastWith_cons, Option.or_eq_some_iff, Option.ite_none_right_eq_some, Option.some.injEq, or_imp,
    and_imp, forall_and]
  rw [and_comm]
  exact and_congr_left' ⟨fun h hd hl => h _ _ hd hl rfl rfl, fun h κ x hd hl hk hx => by subst hk hx; exact h hd hl⟩

theorem keyedFwd_iff_of : ∀ (fs : List JVal) (ts as : List JVal), (∀ t ∈ ts, Decides t) →
    (keyedFwd fs ts as = true ↔ KFSpec fs ts as)
  | fs, [], as, _ => by simp [keyedFwd, KFSpec, lastWith]
  | fs, t :: rest, as, h => by
    rw [keyedFwd, Bool.and_eq_true, kfSpec_cons, keyedFwd_iff_of fs rest as (fun t ht => h t (by simp [ht]))]
    refine and_congr ?_ Iff.rfl
    cases isDirective (memberKey fs t) with
    | true => simp
    | false =>
      cases lastWith fs (memberKey fs t) rest with
      | some z => simp
      | none =>
        cases lastWith fs (memberKey fs t) as with
        | none => simp
        | some y => simpa using h t (by simp) y

theorem cmpVal_iff {sk : List String} {mk : List (String × List JVal)} {k : String} {v w : JVal}
    (hv : DecidesDeep v) : cmpVal sk mk k v w = true ↔ CmpSpec sk mk k v w := by
  unfold cmpVal CmpSpec
  cases hm : modeOf sk mk k v w with
  | plain => simpa using hv.1 w
  | set ts as => simpa using setMatch_iff ts as
  | keyed fs ts as =>
    simp [keyedFwd_iff_of fs ts as (hv.2 ts (modeOf_keyed hm)), keyedBack_iff, KeyedEq, agree_iff, KFSpec]

theorem dictFwd_eq_all (sk : List String) (mk : List (String × List JVal)) (a : List (String × JVal)) :
    ∀ t, dictFwd sk mk t a = t.all fun kv => isDirective kv.1 || (lookup kv.1 a).any (cmpVal sk mk kv.1 kv.2)
  | [] => rfl
  | (k, v) :: rest => by rw [dictFwd_cons, dictFwd_eq_all sk mk a rest, List.all_cons]

theorem decides_scalar {t : JVal} (h : isScalar t = true) : Decides t := fun a => by
  rw [exactMatch_scalar _ _ h, eqmod_scalar_iff h]

theorem decides_arr {ts : List JVal} (h : ∀ t ∈ ts, Decides t) : Decides (.arr ts) := fun a => by
  rw [eqmod_arr_iff]
  cases a with
  | arr as =>
    simp only [exactMatch, Bool.and_eq_true, beq_iff_eq, JVal.arr.injEq, exists_eq_left']
    exact and_congr_right fun hl => listMatch_iff_of ts as h hl
  | _ => simp [exactMatch]

/-- with unique keys a loop over the bindings of `t` is a statement about `lookup` in `t` -/
theorem decides_obj {t : List (String × JVal)} (hnd : (keys t).Nodup)
    (h : ∀ kv ∈ t, DecidesDeep kv.2) : Decides (.obj t) := fun a => by
  rw [eqmod_obj_iff]
  cases a with
  | obj a =>
    simp only [exactMatch, dictFwd_eq_all, Bool.and_eq_true, List.all_eq_true, Bool.or_eq_true, Option.any_eq_true,
      Decidable.or_iff_not_imp_left, Bool.not_eq_true, JVal.obj.injEq, exists_eq_left', agree_iff]
    refine and_congr ⟨fun H k v hd hv => ?_, fun H kv hkv hd => ?_⟩
      ⟨fun H k hd hs => ?_, fun H kv hkv hd => H _ hd (lookup_isSome_of_mem (v := kv.2) hkv)⟩
    · have hm := lookup_mem hv
      exact (H _ hm hd).imp fun w c => ⟨c.1, (cmpVal_iff (h _ hm)).mp c.2⟩
    · exact (H _ _ hd (lookup_of_mem_nodup hnd hkv)).imp fun w c => ⟨c.1, (cmpVal_iff (h kv hkv)).mpr c.2⟩
    · obtain ⟨w, hw⟩ := Option.isSome_iff_exists.1 hs
      exact H (k, w) (lookup_mem hw) hd
  | _ => simp [exactMatch]

theorem decides_of_wf (t : JVal) : wf t = true → DecidesDeep t := by
  induction t using JVal.induct with
  | arr xs ih =>
    intro h
    have hx : ∀ x ∈ xs, Decides x := fun x hx => (ih x hx (wfL_iff.1 h x hx)).1
    exact ⟨decides_arr hx, fun _ e => by cases e; exact hx⟩
  | obj kvs ih =>
    intro h
    obtain ⟨hn, -, ho⟩ := wf_obj_iff.1 h
    exact ⟨decides_obj hn fun kv hkv => ih kv hkv (ho kv hkv), fun _ e => nomatch e⟩
  | _ => exact fun _ => ⟨decides_scalar rfl, fun _ e => nomatch e⟩

theorem em_iff (t a : JVal) (h : wf t = true) : exactMatch t a = true ↔ EqMod t a :=
  (decides_of_wf t h).1 a

theorem lm_iff : ∀ (ts as : List JVal), wfL ts = true → ts.length = as.length →
    (listMatch ts as = true ↔ ListSpec ts as) :=
  fun ts as h => listMatch_iff_of ts as fun t ht a => em_iff t a (wfL_iff.1 h t ht)

theorem kf_iff : ∀ (fs : List JVal) (ts as : List JVal), wfL ts = true →
    (keyedFwd fs ts as = true ↔ KFSpec fs ts as) :=
  fun fs ts as h => keyedFwd_iff_of fs ts as fun t ht a => em_iff t a (wfL_iff.1 h t ht)

mutual
/-- no directive key at any depth — an actual value, or an expectation copied from one; there `EqMod` is plain
    typed equality (`eqmod_obj_noDir`) -/
def noDir : JVal → Bool
  | .obj kvs => noDirO kvs
  | .arr xs => noDirL xs
  | _ => true
def noDirL : List JVal → Bool
  | [] => true
  | x :: xs => noDir x && noDirL xs
def noDirO : List (String × JVal) → Bool
  | [] => true
  | (k, v) :: rest => !isDirective k && noDir v && noDirO rest
end

theorem noDirL_iff : ∀ {xs : List JVal}, noDirL xs = true ↔ ∀ x ∈ xs, noDir x = true
  | [] => by simp [noDirL]
  | y :: ys => by simp [noDirL, noDirL_iff (xs := ys)]

theorem noDirO_iff : ∀ {kvs : List (String × JVal)},
    noDirO kvs = true ↔ ∀ kv ∈ kvs, isDirective kv.1 = false ∧ noDir kv.2 = true
  | [] => by simp [noDirO]
  | (k, v) :: rest => by simp [noDirO, noDirO_iff (kvs := rest), and_assoc]

theorem noDirO_lookup {kvs : List (String × JVal)} {k : String} {v : JVal}
    (hn : noDirO kvs = true) (h : lookup k kvs = some v) : isDirective k = false ∧ noDir v = true :=
  noDirO_iff.1 hn (k, v) (lookup_mem h)

theorem noDirO_lookup_directive {kvs : List (String × JVal)} {k : String}
    (hn : noDirO kvs = true) (hd : isDirective k = true) : lookup k kvs = none := by
  cases h : lookup k kvs with
  | none => rfl
  | some v => have := (noDirO_lookup hn h).1; rw [hd] at this; cases this

theorem isDirective_compareAsSet : isDirective compareAsSet = true := by decide +kernel

theorem isDirective_compareAsMap : isDirective compareAsMap = true := by decide +kernel

theorem modeOf_noDir {t : List (String × JVal)} (hn : noDirO t = true) (k : String) (v w : JVal) :
    modeOf (setKeysOf t) (mapKeysOf t) k v w = .plain := by
  have h1 : setKeysOf t = [] := by
    simp only [setKeysOf, noDirO_lookup_directive hn isDirective_compareAsSet]
  have h2 : mapKeysOf t = [] := by
    simp only [mapKeysOf, noDirO_lookup_directive hn isDirective_compareAsMap]
  rw [h1, h2]
  simp only [modeOf, fieldsFor, List.contains_nil, Bool.false_eq_true, if_false]
  split <;> rfl

theorem scalarEq_refl : ∀ (s : JVal), isScalar s = true → scalarEq s s = true := by
  intro s h
  cases s with
  | arr _ | obj _ => contradiction
  | _ => simp [scalarEq]

theorem scalarEq_symm : ∀ (s t : JVal), scalarEq s t = scalarEq t s := by
  intro s t
  cases s <;> cases t <;> simp only [scalarEq] <;> exact BEq.comm

theorem eqmod_obj_noDir {t a : List (String × JVal)} (hn : noDirO t = true) :
    EqMod (.obj t) (.obj a) ↔
      (∀ k, isDirective k = false → ((lookup k t).isSome ↔ (lookup k a).isSome)) ∧
      (∀ k v w, lookup k t = some v → lookup k a = some w → EqMod v w) := by
  simp only [eqmod_obj_iff, JVal.obj.injEq, exists_eq_left', Agree, cmpSpec_plain (modeOf_noDir hn _ _ _)]
  exact and_congr_right fun _ =>
    ⟨fun h k v w hv hw => h k v w (noDirO_lookup hn hv).1 hv hw, fun h k v w _ hv hw => h k v w hv hw⟩

theorem eqmod_refl (a : JVal) : noDir a = true → EqMod a a := by
  induction a using JVal.induct with
  | arr xs ih =>
    intro h
    refine EqMod.arr rfl fun i t a ht ha => ?_
    rw [ht] at ha; cases ha
    have hm := List.mem_of_getElem? ht
    exact ih t hm (noDirL_iff.1 h t hm)
  | obj kvs ih =>
    intro h
    refine (eqmod_obj_noDir h).2 ⟨fun _ _ => Iff.rfl, fun k v w hv hw => ?_⟩
    rw [hv] at hw; cases hw
    exact ih (k, v) (lookup_mem hv) (noDirO_lookup h hv).2
  | _ => exact fun _ => EqMod.scalar rfl (scalarEq_refl _ rfl)

theorem eqmod_refl_L : ∀ (xs : List JVal), noDirL xs = true → ∀ x ∈ xs, EqMod x x :=
  fun _ h x hx => eqmod_refl x (noDirL_iff.1 h x hx)

theorem eqmod_refl_O : ∀ (kvs : List (String × JVal)), noDirO kvs = true →
    ∀ k v, lookup k kvs = some v → EqMod v v :=
  fun _ h _ v hv => eqmod_refl v (noDirO_lookup h hv).2

/-- `Dev a a'`: `a` is the original, `a'` the deviated value.  `dev_not_eqmod` takes the DEVIATED one as the
    expectation: `¬ EqMod a' a`. -/
inductive Dev : JVal → JVal → Prop
  | leaf {s s' : JVal} : (isScalar s = true ∨ isScalar s' = true) → scalarEq s s' = false → Dev s s'
  | dropKey {o : List (String × JVal)} {k : String} {v : JVal} :
      lookup k o = some v → Dev (.obj o) (.obj (JVal.erase k o))
  | addKey {o : List (String × JVal)} {k : String} {v : JVal} :
      lookup k o = none → isDirective k = false → Dev (.obj o) (.obj (o ++ [(k, v)]))
  | swap {xs zs : List JVal} {x y : JVal} :
      ¬ EqMod y x → Dev (.arr (xs ++ x :: y :: zs)) (.arr (xs ++ y :: x :: zs))
  | inKey {o : List (String × JVal)} {k : String} {v v' : JVal} :
      lookup k o = some v → Dev v v' → Dev (.obj o) (.obj (JVal.insert k v' o))
  | inIdx {xs zs : List JVal} {x x' : JVal} :
      Dev x x' → Dev (.arr (xs ++ x :: zs)) (.arr (xs ++ x' :: zs))

theorem noDirO_insert : ∀ {o : List (String × JVal)} {k : String} {v : JVal},
    noDirO o = true → isDirective k = false → noDir v = true → noDirO (JVal.insert k v o) = true :=
  fun hn hk hv => noDirO_iff.2 (forall_mem_insert ⟨hk, hv⟩ (noDirO_iff.1 hn))

theorem eqmod_arr_mid {xs zs zs' : List JVal} {x y : JVal}
    (e : EqMod (.arr (xs ++ x :: zs)) (.arr (xs ++ y :: zs'))) : EqMod x y := by
  obtain ⟨_, ea, _, hs⟩ := eqmod_arr_iff.mp e
  cases ea
  exact hs xs.length x y (by simp) (by simp)

theorem dev_not_eqmod {a a' : JVal} (d : Dev a a') :
    wf a = true → noDir a = true → noDir a' = true → ¬ EqMod a' a := by
  induction d with
  | leaf hs hne =>
    intro _ _ _ e
    cases e with
    | scalar _ h2 => rw [scalarEq_symm, hne] at h2; cases h2
    | arr _ _ => rcases hs with h | h <;> cases h
    | obj _ _ _ _ _ => rcases hs with h | h <;> cases h
  | @dropKey o k v hl =>
    intro hw hn _ e
    simpa [lookup_erase_self k o (wf_obj_iff.1 hw).1, hl] using eqmod_obj_keys e (noDirO_lookup hn hl).1
  | @addKey o k v hl hk =>
    intro _ _ _ e
    simpa [lookup_append_new hl, hl] using eqmod_obj_keys e hk
  | swap hne => exact fun _ _ _ e => hne (eqmod_arr_mid e)
  | @inKey o k v v' hl _ ih =>
    intro hw hn hn' e
    have hi := lookup_insert_self k v' o
    exact ih (wf_lookup hw hl) (noDirO_lookup hn hl).2 (noDirO_lookup hn' hi).2
      (((eqmod_obj_noDir hn').mp e).2 k v' v hi hl)
  | @inIdx xs zs x x' _ ih =>
    intro hw hn hn' e
    exact ih (wfL_iff.1 hw x (by simp)) (noDirL_iff.1 hn x (by simp)) (noDirL_iff.1 hn' x' (by simp))
      (eqmod_arr_mid e)

/-- `dirShape` reads its map through `lookup` only — at the two directive keys and at the map-directed
    keys, where only a list value matters -/
theorem dirShape_of_lookup {o o' : List (String × JVal)} {k : String} (hk : isDirective k = false)
    (hne : ∀ k', k' ≠ k → lookup k' o' = lookup k' o) (hk' : ∀ ts, lookup k o' ≠ some (.arr ts))
    (h : dirShape o = true) : dirShape o' = true := by
  have hdir : ∀ d, isDirective d = true → lookup d o' = lookup d o :=
    fun d hd => hne d fun e => by rw [e, hk] at hd; cases hd
  have hs := hdir _ isDirective_compareAsSet
  have hm := hdir _ isDirective_compareAsMap
  have hmk : mapKeysOf o' = mapKeysOf o := by simp only [mapKeysOf, hm]
  simp only [dirShape, Bool.and_eq_true, hs, hm, hmk, List.all_eq_true] at h ⊢
  refine ⟨h.1, fun kf hkf => ?_⟩
  by_cases e : kf.1 = k
  · rw [e]
    split
    next ts hts => exact absurd hts (hk' ts)
    next => rfl
  · rw [hne _ e]; exact h.2 kf hkf

theorem wf_insert_obj {o x : List (String × JVal)} {k : String} (hk : isDirective k = false)
    (h : wf (.obj o) = true) (hx : wf (.obj x) = true) : wf (.obj (JVal.insert k (.obj x) o)) = true := by
  obtain ⟨n, d, w⟩ := wf_obj_iff.1 h
  exact wf_obj_iff.2 ⟨nodup_keys_insert k _ n,
    dirShape_of_lookup hk (fun _ e => lookup_insert_ne _ e _)
      (fun ts => by rw [lookup_insert_self]; exact fun e => nomatch e) d,
    forall_mem_insert hx w⟩

theorem wf_erase {o : List (String × JVal)} {k : String} (hk : isDirective k = false)
    (h : wf (.obj o) = true) : wf (.obj (JVal.erase k o)) = true := by
  obtain ⟨n, d, w⟩ := wf_obj_iff.1 h
  exact wf_obj_iff.2 ⟨nodup_keys_erase k n, dirShape_of_lookup hk (fun _ e => lookup_erase_ne e _)
    (fun ts => by rw [lookup_erase_self k o n]; exact fun e => nomatch e) d,
    fun kv hkv => w kv (mem_erase hkv)⟩

theorem wf_stripLastApplied (e : JVal) (h : DirectivesWF e) : DirectivesWF (stripLastApplied e) := by
  unfold DirectivesWF at *
  fun_cases stripLastApplied e
  -- `metadata.annotations` is a map: the one exit that changes the value
  case case1 o md hmd ann hann ann' md' =>
    have wmd := wf_lookup h hmd
    refine wf_insert_obj (by decide +kernel) h ?_
    unfold md'
    split
    · exact wf_erase (by decide +kernel) wmd
    · exact wf_insert_obj (by decide +kernel) wmd
        (wf_erase (k := lastApplied) (by decide +kernel) (wf_lookup wmd hann))
  all_goals exact h

end Koreo.Exact
