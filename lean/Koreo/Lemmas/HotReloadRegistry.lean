/-
  C16 ↔ C17 link.  The hot-reload transition system (`Koreo/HotReload.lean`) abstracts the
  subscription registry to two functions (`subs`, `queue`).  This file shows that the abstraction
  is faithful to the detailed registry model of C17 (`Koreo/Registry.lean`, which is tied to
  `registry.py` by its own correspondence check): every registry-side effect of an offer, a
  delete, a re-preparation or a monitor step is the effect of the corresponding `registry.py`
  calls in the C17 model (`register`, `subscribe_only_to` — whose cycle check provably answers
  "no cycle" because declarations are ranked —, `notify_subscribers`, `kill_resource` +
  `deregister`), plus the consumer side that `registry.py` leaves to its users (the monitor
  taking everything out of its queue).  Hence the registry view of every reachable hot-reload
  state is a state the C17 model reaches, and everything C17 proves (inverse views, acyclicity,
  exact delivery) holds for the registry as the cache uses it.
-/
import Koreo.Lemmas.HotReload
import Koreo.Lemmas.Registry

namespace Koreo.HotReload.Link
open Koreo.HotReload
open Koreo.Registry (Item Queue Assoc Op Out Good Reach Edge applyOnly notifyWith caughtRepaired
  caughtRepaired_all)

abbrev G := Koreo.Registry.State
variable {Spec : Type}

/-- the consumer side, which `registry.py` leaves to its users: the monitor task takes every
    item out of its own queue (`get()` + `task_done()` each) -/
def popAll (g : G) (r : Nat) : G :=
  match g.queues.find? r with
  | none => g
  | some q => { g with queues := g.queues.set r { q with items := [], unfinished := 0 } }

/-- what the C17 model reaches when driven as the cache drives `registry.py`: its operations, and the
    monitors emptying their queues -/
inductive RegReach : G → Prop
  | init : RegReach Koreo.Registry.init
  | step {g : G} (op : Op) : RegReach g → RegReach (Koreo.Registry.step g op).1
  | pop {g : G} (r : Nat) : RegReach g → RegReach (popAll g r)

theorem regReach_good {g : G} (h : RegReach g) : Good g := by
  induction h with
  | init => exact Koreo.Registry.good_init
  | step op _ ih => exact Koreo.Registry.good_step ih op
  | pop r _ ih =>
    fun_cases popAll _ r
    · exact ih
    · exact ih.setQueue r rfl

/-- `ot = none` is "`time.monotonic()` read inside the registry"; the abstract model reads that time from
    its logical clock, so such an item stands for any `t` -/
def ItemRel (it : Item) (t : Nat) : Prop :=
  ∃ src ot, it = .event src ot ∧ ∀ t', ot = some t' → t' = t

inductive ItemsRel : List Item → List Nat → Prop
  | nil : ItemsRel [] []
  | cons {it : Item} {t : Nat} {is : List Item} {ts : List Nat} :
      ItemRel it t → ItemsRel is ts → ItemsRel (it :: is) (t :: ts)

/-- `q` is open and unbounded (`shut = false`, `cap = 0`) and holds exactly the events `ts` -/
def QRel (q : Queue) (ts : List Nat) : Prop :=
  q.shut = false ∧ q.cap = 0 ∧ ItemsRel q.items ts

def QMatch : Option Queue → Option (List Nat) → Prop
  | none, none => True
  | some q, some ts => QRel q ts
  | _, _ => False

/-- `s`'s `subs` / `queue` are the detailed registry `g` seen abstractly: the same subscriptions, and
    resource by resource the same queue (`QMatch`) -/
structure Abs (g : G) (s : State Nat Spec) : Prop where
  subs : ∀ x d, d ∈ g.subs x ↔ d ∈ s.subs x
  queue : ∀ x, QMatch (g.queues.find? x) (s.queue x)

/-- some state the C17 model reaches is seen abstractly as `s`'s `subs` / `queue` -/
def Real (s : State Nat Spec) : Prop := ∃ g, RegReach g ∧ Abs g s

theorem qrel_live {q : Queue} {ts : List Nat} (h : QRel q ts) : q.live = true := by
  obtain ⟨h1, h2, _⟩ := h
  simp [Queue.live, Queue.full, h1, h2]

theorem abs_congr {g : G} {s s' : State Nat Spec} (h : Abs g s) (h1 : s'.subs = s.subs)
    (h2 : s'.queue = s.queue) : Abs g s' :=
  ⟨by rw [h1]; exact h.subs, by rw [h2]; exact h.queue⟩

theorem Real.congr {s s' : State Nat Spec} (h : Real s) (h1 : s'.subs = s.subs) (h2 : s'.queue = s.queue) :
    Real s' :=
  let ⟨g, hr, ha⟩ := h; ⟨g, hr, abs_congr ha h1 h2⟩

theorem real_tick {s : State Nat Spec} (h : Real s) : Real (tick s) := h.congr rfl rfl

theorem real_init : Real (init : State Nat Spec) :=
  ⟨_, .init, by intro x d; simp [Koreo.Registry.State.subs, Koreo.Registry.init, Koreo.Registry.Map.get,
      Assoc.find?, HotReload.init],
    by intro x; simp [Koreo.Registry.init, Assoc.find?, HotReload.init, QMatch]⟩

theorem QMatch.cases {a : Option Queue} {b : Option (List Nat)} (h : QMatch a b) :
    (a = none ∧ b = none) ∨ ∃ q ts, a = some q ∧ b = some ts ∧ QRel q ts := by
  cases a <;> cases b
  · exact .inl ⟨rfl, rfl⟩
  · exact h.elim
  · exact h.elim
  · exact .inr ⟨_, _, rfl, rfl, h⟩

theorem abs_notifyWith {g : G} {s : State Nat Spec} (hg : Good g) (h : Abs g s) (d t : Nat)
    (ot : Option Nat) (hot : ∀ t', ot = some t' → t' = t) (wrap : List Nat → Out) :
    Abs (notifyWith caughtRepaired g d ot wrap).1 (notify s d t) ∧
    ∃ ds, (notifyWith caughtRepaired g d ot wrap).2 = wrap ds ∧
      ∀ y, y ∈ ds ↔ (d ∈ s.subs y ∧ (s.queue y).isSome = true) := by
  obtain ⟨qs', ds, h1, h2, h3⟩ :=
    Koreo.Registry.notifyWith_spec caughtRepaired caughtRepaired_all g d ot wrap (hg.1.nodupSubscribers d)
  -- the detailed side delivers to the live subscribers; a matching queue is live as soon as it exists
  have hmem : ∀ y, y ∈ ds ↔ (d ∈ s.subs y ∧ (s.queue y).isSome = true) := by
    intro y
    have hinv : y ∈ g.subscribers d ↔ d ∈ s.subs y := by
      rw [← h.subs y d]; exact (hg.1.inv y d).symm
    rw [h2, List.mem_filter, hinv]
    rcases (h.queue y).cases with ⟨hf, hs⟩ | ⟨q, ts, hf, hs, hq⟩
    · simp [Koreo.Registry.liveIn, hf, hs]
    · simp [Koreo.Registry.liveIn, hf, hs, qrel_live hq]
  rw [h1]
  refine ⟨⟨h.subs, fun y => ?_⟩, ds, rfl, hmem⟩
  show QMatch (qs'.find? y) (if d ∈ s.subs y then (s.queue y).map (t :: ·) else s.queue y)
  rw [h3 y]
  rcases (h.queue y).cases with ⟨hf, hs⟩ | ⟨q, ts, hf, hs, hq⟩
  · rw [hf, hs]; split <;> split <;> exact trivial
  · have hy : y ∈ ds ↔ d ∈ s.subs y := by rw [hmem y, hs]; simp
    rw [hf, hs]
    by_cases hsub : d ∈ s.subs y
    · rw [if_pos (hy.2 hsub), if_pos hsub]
      exact ⟨hq.1, hq.2.1, .cons ⟨d, ot, rfl, hot⟩ hq.2.2⟩
    · rw [if_neg (fun h => hsub (hy.1 h)), if_neg hsub]; exact hq

theorem real_notify {s : State Nat Spec} (h : Real s) (d t : Nat) : Real (notify s d t) := by
  obtain ⟨g, hr, ha⟩ := h
  exact ⟨_, .step (.notify d t) hr,
    (abs_notifyWith (regReach_good hr) ha d t (some t) (by intro t' e; cases e; rfl) .delivered).1⟩

theorem abs_setQueue {g : G} {s : State Nat Spec} (h : Abs g s) (r : Nat) {q : Queue} {ts : List Nat}
    (hq : QRel q ts) :
    Abs { g with queues := g.queues.set r q } { s with queue := upd s.queue r (some ts) } := by
  refine ⟨h.subs, fun x => ?_⟩
  show QMatch ((g.queues.set r q).find? x) (upd s.queue r (some ts) x)
  rw [Assoc.find_set]
  by_cases hx : r = x
  · subst hx; rw [if_pos rfl, upd_same]; exact hq
  · rw [if_neg hx, upd_other _ _ _ (Ne.symm hx)]; exact h.queue x

theorem real_register {s : State Nat Spec} (h : Real s) (r : Nat) : Real (register s r) := by
  obtain ⟨g, hr, ha⟩ := h
  refine ⟨_, .step (.register r 0) hr, ?_⟩
  rcases (ha.queue r).cases with ⟨hf, hs⟩ | ⟨q, ts, hf, hs, -⟩
  · rw [Koreo.Registry.step_register_none 0 hf, register_none hs]
    have habs1 : Abs _ (tick { s with queue := upd s.queue r (some []) }) :=
      abs_congr (abs_setQueue ha r (q := Queue.fresh 0) ⟨rfl, rfl, .nil⟩) rfl rfl
    exact (abs_notifyWith ((regReach_good hr).setQueue r rfl) habs1 r s.clock none (by intro t' e; cases e)
      .delivered).1
  · rw [Koreo.Registry.step_register_some 0 hf, register_some hs]
    exact ha

theorem rank_of_reach {g : G} {rank : Nat → Nat} (hr : ∀ x y, Edge g x y → rank y < rank x)
    {a b : Nat} (h : Reach (Edge g) a b) : rank b ≤ rank a := by
  induction h with
  | refl => exact Nat.le_refl _
  | tail _ e ih => exact Nat.le_of_lt (Nat.lt_of_lt_of_le (hr _ _ e) ih)

theorem subs_applyOnly {g : G} {subs : Nat → List Nat} (h : ∀ x d, d ∈ g.subs x ↔ d ∈ subs x) (r : Nat)
    (deps : List Nat) (x d : Nat) : d ∈ (applyOnly g r deps).subs x ↔ d ∈ upd subs r deps x := by
  show d ∈ Koreo.Registry.Map.get (applyOnly g r deps).subsOf x ↔ _
  simp only [applyOnly, Koreo.Registry.Map.get_set]
  by_cases hx : r = x
  · subst hx; simp [Koreo.Registry.mem_dedup]
  · simp only [hx, if_false, upd_other _ _ _ (Ne.symm hx)]; exact h x d

theorem abs_setSubs {g : G} {s : State Nat Spec} (hr : RegReach g) (ha : Abs g s) {rank : Nat → Nat}
    (hranked : ∀ x, ∀ d ∈ s.subs x, rank d < rank x) (r : Nat) (deps : List Nat)
    (hdeps : ∀ d ∈ deps, rank d < rank r) :
    (Koreo.Registry.step g (.subscribeOnlyTo r deps)).2 = .ok ∧
    Abs (Koreo.Registry.step g (.subscribeOnlyTo r deps)).1 { s with subs := upd s.subs r deps } := by
  have hedge : ∀ x y, Edge g x y → rank y < rank x := fun x y e => hranked x y ((ha.subs x y).1 e)
  -- a dependency that reached `r` would rank at least as high as `r`
  have hok : Koreo.Registry.checkForCycles g r deps = .ok :=
    (Koreo.Registry.check_iff g r deps (regReach_good hr).1.acyclic).2.2.2 fun ⟨d, hd, hre⟩ =>
      Nat.lt_irrefl _ (Nat.lt_of_lt_of_le (hdeps d hd) (rank_of_reach hedge hre))
  rw [Koreo.Registry.step_subscribeOnlyTo_ok hok]
  exact ⟨rfl, subs_applyOnly ha.subs r deps, ha.queue⟩

theorem real_pop {s : State Nat Spec} (h : Real s) (r : Nat) {q : List Nat} (hq : s.queue r = some q) :
    Real { s with queue := upd s.queue r (some []) } := by
  obtain ⟨g, hr, ha⟩ := h
  refine ⟨_, .pop r hr, ?_⟩
  have hm := ha.queue r
  fun_cases popAll g r <;> rw [‹g.queues.find? r = _›, hq] at hm
  · exact hm.elim  -- no queue on the detailed side: `s` has one
  · exact abs_setQueue ha r ⟨hm.1, hm.2.1, .nil⟩

theorem real_dropAndNotify {s : State Nat Spec} (h : Real s) (r t : Nat) :
    Real (notify { s with subs := upd s.subs r [], queue := upd s.queue r none } r t) := by
  obtain ⟨g, hr, ha⟩ := h
  let g1 := (Koreo.Registry.step g (.kill r)).1
  have hg1 : Good g1 := Koreo.Registry.good_step (regReach_good hr) _
  obtain ⟨hk, hq1⟩ := Koreo.Registry.step_kill_frame g r
  have hsubs1 : g1.subsOf = g.subsOf := by show (Koreo.Registry.step g (.kill r)).1.subsOf = _; rw [hk]
  refine ⟨(Koreo.Registry.step g1 (.deregister r t)).1, .step _ (.step _ hr), ?_⟩
  rw [Koreo.Registry.step_deregister]
  -- the state the notification of `deregister` starts from: `r` unsubscribed and without a queue
  refine (abs_notifyWith (hg1.dropped r) ⟨fun x d => ?_, fun x => ?_⟩ r t (some t) (by intro t' e; cases e; rfl) _).1
  · exact subs_applyOnly (g := g1) (fun x d => by rw [Koreo.Registry.State.subs, hsubs1]; exact ha.subs x d)
      r [] x d
  · show QMatch ((g1.queues.del r).find? x) (upd s.queue r none x)
    rw [Assoc.find_del]
    by_cases hx : r = x
    · subst hx; simp [QMatch]
    · rw [if_neg hx, upd_other _ _ _ (Ne.symm hx), hq1 x hx]; exact ha.queue x

variable {decl : Spec → (Nat → Bool) → List Nat} {rank : Nat → Nat}

theorem real_changeState {s : State Nat Spec} (h : Real s)
    (hranked : ∀ x, ∀ d ∈ s.subs x, rank d < rank x) (r : Nat) {deps : List Nat}
    (hdeps : ∀ d ∈ deps, rank d < rank r) (ce : Option (Entry Nat Spec)) (m : Mon) (p : Nat) :
    Real (changeState s r ce deps (s.queue r) m p) := by
  obtain ⟨g, hr, ha⟩ := h
  -- `changeState` leaves `r`'s queue as it is; then its `subs` and `queue` are those of
  -- `notify { s with subs := upd s.subs r deps } r s.clock` by `rfl`
  exact (real_notify ⟨_, .step _ hr, (abs_setSubs hr ha hranked r deps hdeps).2⟩ r s.clock).congr rfl
    (by rw [changeState, upd_eq_self]; rfl)

theorem real_offerNew {s : State Nat Spec} (h : Real s) (hi : Inv decl rank s) (r v : Nat)
    (spec : Spec) (hspec : SpecRanked decl rank r spec) : Real (offerNew decl s r v spec) := by
  rw [offerNew_eq]
  exact real_changeState (real_register (real_tick h) r) (by rw [register_subs]; exact hi.ranked) r (hspec _) _ _ _

theorem real_reprepare {s : State Nat Spec} (h : Real s) {r0 : Nat} {qok : Bool} {pend : List Nat}
    (hi : InvG decl rank r0 qok pend s) (r : Nat) : Real (reprepare decl s r) := by
  cases hc : s.cache r with
  | none => rw [reprepare_none hc]; exact h
  | some e =>
    rw [reprepare_eq hc]
    exact real_changeState (real_tick h) hi.ranked r (hi.specOk r e hc _) _ _ _

theorem real_bg {s : State Nat Spec} (h : Real s) (hi : Inv decl rank s) (r : Nat) : Real (bg decl s r) :=
  (bg_induction hi r (P := Real) (fun _ => h) (fun _ hq => (real_pop h r hq).congr rfl rfl)
    fun _ _ hi' h' => real_reprepare h' hi' r).2

theorem real_delete {s : State Nat Spec} (h : Real s) (r : Nat) (ver : Option Nat) : Real (delete s r ver) := by
  rcases delete_cases s r ver with ⟨_, e⟩ | ⟨_, _, _, e⟩ <;> rw [e]
  · exact h
  · exact (real_dropAndNotify h r s.clock).congr rfl rfl

theorem real_step {s : State Nat Spec} (h : Real s) (hi : Inv decl rank s) (a : Action Nat Spec)
    (ha : Ranked decl rank a) : Real (step decl s a) := by
  cases a with
  | offer r v spec =>
    rcases offer_cases decl s r v spec with ⟨_, _, _, e⟩ | ⟨_, e⟩ <;> simp only [step, e]
    · exact h
    · exact real_offerNew h hi r v spec ha
  | delete r ver => exact real_delete h r ver
  | bg r => exact real_bg h hi r

theorem real_run (acts : List (Action Nat Spec)) {s : State Nat Spec} (h : Real s)
    (hi : Inv decl rank s) (ha : ∀ a ∈ acts, Ranked decl rank a) : Real (run decl s acts) := by
  induction acts generalizing s with
  | nil => exact h
  | cons a rest ih =>
    simp only [run, List.foldl_cons]
    exact ih (real_step h hi a (ha a (by simp))) (inv_step hi a (ha a (by simp))) (fun b hb => ha b (by simp [hb]))

end Koreo.HotReload.Link
