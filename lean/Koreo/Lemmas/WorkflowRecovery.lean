/-
  Lemmas for the recovery theorem of C09 over `Koreo/WorkflowRecovery.lean`.

  Every pass relation of the model is read through one function per step, `GSys.ev`: the step evaluated on the values of
  its dependencies, or left alone — a reconciler that does nothing, so a step that is never evaluated needs no case of its
  own.  Beside `ev`: `ins` are the values a step is evaluated on in a pass with given results, `nx` is the state part of
  `ev`, `FOn` what an evaluation hit by a fault may do to the state instead, `PassOn` / `FPassOn` the fault-free and the
  faulty pass in these terms.  One predicate `GProg t` says where every step stands after `t` fault-free passes; at
  `t = 0` it is the invariant that faulty passes keep, and under it an Ok result is the limit's Ok result; a fault-free
  pass takes `t` to `t + 1`; `GSys.bound` counts the passes.  The flat `DagSys` of `Koreo/WorkflowFaults.lean` is the case
  of one state type and one evaluation per step.  The step hypotheses `StepOK` are closed under the combinators (a whole
  sub-workflow as one step is the theorem applied to itself), and a `Workflow` of `Koreo/Workflow.lean` is such a
  system, with sub-workflows as targets by induction on the nesting depth.  `section faithful`: a fault-free `pass` of
  `ofWorkflow`'s step answers what `evalStep` stores under `frunOf` (used by `C09.recovery_step_is_fault_model_step`).

  `GHyps`, the assumptions of the theorem, is defined here; statements of `Props/C09.lean` mention it.
-/
import Koreo.WorkflowRecovery
import Koreo.Lemmas.WorkflowFaults

namespace Koreo.WorkflowFaults

section iter
variable {α β : Type}

theorem iterF_map {f : α → α} {f' : β → β} {g : α → β} (h : ∀ a, g (f a) = f' (g a)) :
    ∀ n a, g (iterF f n a) = iterF f' n (g a)
  | 0, _ => rfl
  | n + 1, a => (iterF_map h n (f a)).trans (congrArg (iterF f' n) (h a))

theorem iterF_comm (f : α → α) (n : Nat) (a : α) : iterF f n (f a) = f (iterF f n a) :=
  (iterF_map (fun _ => rfl) n a).symm

theorem iterF_next_of_fixed {f : α → α} {k : Nat} {a : α} (h : f (iterF f k a) = iterF f k a) :
    iterF f k (f a) = iterF f k a :=
  (iterF_comm f k a).trans h

theorem iterF_fixed {f : α → α} {a : α} (h : f a = a) : ∀ n, iterF f n a = a
  | 0 => rfl
  | n + 1 => by show iterF f n (f a) = a; rw [h]; exact iterF_fixed h n

theorem iterF_ge {f : α → α} {k : Nat} {a : α} (h : f (iterF f k a) = iterF f k a) {n : Nat} (hn : k ≤ n) :
    iterF f n a = iterF f k a := by
  induction hn with
  | refl => rfl
  | step _ ih => exact (iterF_comm f _ a).trans ((congrArg f ih).trans h)

theorem iterF_fixed_of_le {f : α → α} {k n : Nat} {a : α} (h : f (iterF f k a) = iterF f k a) (hn : k ≤ n) :
    f (iterF f n a) = iterF f n a := by
  rw [iterF_ge h hn]; exact h

end iter

variable {X V R : Type}

/-- `ok_not_err` lets an Ok result invoke `StepOK.quiet_unchanged`, which is stated for results that are not errors -/
structure GHyps (sys : GSys X V R) : Prop where
  wf : ∀ i, ∀ d ∈ sys.deps i, d < i
  gated_not_ok : sys.rv.okv sys.rv.gated = none
  ok_not_err : ∀ r v, sys.rv.okv r = some v → sys.rv.isErr r = false
  steps : ∀ i, StepOK sys.rv (sys.step i)

namespace GSys
variable (sys : GSys X V R)

def ins (r : Nat → R) (i : Nat) : Option (List V) := depVals sys.rv.okv r (sys.deps i)

def ev (x : X) (i : Nat) (o : Option (List V)) (s : sys.S i) : sys.S i × R :=
  match o with
  | some vs => (sys.step i).pass x vs s
  | none => (s, sys.rv.gated)

def nx (x : X) (i : Nat) (o : Option (List V)) (s : sys.S i) : sys.S i := (sys.ev x i o s).1

def FOn (x : X) (i : Nat) (o : Option (List V)) (s s' : sys.S i) : Prop :=
  match o with
  | some vs => s' = s ∨ (sys.step i).F x vs s s'
  | none => s' = s

end GSys

variable {sys : GSys X V R}

section ev
variable {x : X} {i : Nat} {o : Option (List V)} {s s' : sys.S i}

theorem nx_stable (hst : StepOK sys.rv (sys.step i)) (x : X) (o : Option (List V)) (s : sys.S i) :
    sys.nx x i o (iterF (sys.nx x i o) (sys.step i).k s) = iterF (sys.nx x i o) (sys.step i).k s := by
  cases o with
  | some vs => exact hst.stable x vs s
  | none => rfl

theorem nx_quiet (hst : StepOK sys.rv (sys.step i)) (hq : sys.rv.isErr (sys.ev x i o s).2 = false) :
    sys.nx x i o s = s := by
  cases o with
  | some vs => exact hst.quiet_unchanged x vs s hq
  | none => rfl

theorem lim_faulty (hst : StepOK sys.rv (sys.step i)) (hF : sys.FOn x i o s s') :
    iterF (sys.nx x i o) (sys.step i).k s' = iterF (sys.nx x i o) (sys.step i).k s := by
  cases o with
  | some vs =>
    rcases hF with hF | hF
    · rw [hF]
    · exact hst.faulty_same_limit x vs s s' hF
  | none => rw [show s' = s from hF]

end ev

/-- says nothing about the state outside the system, unlike `GIsPass`: the flat `IsPass` of a `DagSys`, which does not
    either, has this form as it stands -/
def PassOn (sys : GSys X V R) (x : X) (c c' : sys.State) (r : Nat → R) : Prop :=
  ∀ i, i < sys.n → c' i = sys.nx x i (sys.ins r i) (c i) ∧ r i = (sys.ev x i (sys.ins r i) (c i)).2

def FPassOn (sys : GSys X V R) (x : X) (c c' : sys.State) (r : Nat → R) : Prop :=
  ∀ i, i < sys.n → (c' i = sys.nx x i (sys.ins r i) (c i) ∧ r i = (sys.ev x i (sys.ins r i) (c i)).2) ∨
    (sys.FOn x i (sys.ins r i) (c i) (c' i) ∧ sys.rv.okv (r i) = none)

section pass
variable {x : X} {c c' : sys.State} {r : Nat → R}

theorem PassOn.faulty (hp : PassOn sys x c c' r) : FPassOn sys x c c' r := fun i hi => Or.inl (hp i hi)

theorem GIsPass.on (hp : GIsPass sys x c c' r) : PassOn sys x c c' r := by
  intro i hi
  have := hp.1 i hi
  unfold GSys.nx GSys.ins
  cases hd : depVals sys.rv.okv r (sys.deps i) <;> rw [hd] at this <;> exact this

theorem GIsFPass.on (hp : GIsFPass sys x c c' r) : FPassOn sys x c c' r := by
  intro i hi
  have := hp.1 i hi
  unfold GSys.nx GSys.ins
  cases hd : depVals sys.rv.okv r (sys.deps i) <;> rw [hd] at this
  · exact Or.inr this
  · exact this

end pass

theorem gpassF_ev (hwf : ∀ i, ∀ d ∈ sys.deps i, d < i) (x : X) (c : sys.State) (i : Nat) :
    gpassF sys x c (i + 1) i = sys.ev x i (sys.ins (gpassR sys x c) i) (c i) :=
  fuelRec_eq (α := fun i => sys.S i × R) (okv := sys.rv.okv) hwf (fun _ p => p.2) (fun i o => sys.ev x i o (c i))
    (gpassF sys x c) (fun _ _ => rfl) i

theorem gpassF_isPass (hwf : ∀ i, ∀ d ∈ sys.deps i, d < i) (x : X) (c : sys.State) :
    GIsPass sys x c (gpassS sys x c) (gpassR sys x c) := by
  refine ⟨fun i hi => ?_, fun i hi => if_neg (Nat.not_lt.2 hi)⟩
  have he := gpassF_ev hwf x c i
  rw [show gpassS sys x c i = (gpassF sys x c (i + 1) i).1 from if_pos hi]
  unfold GSys.ins at he
  cases hd : depVals sys.rv.okv (gpassR sys x c) (sys.deps i) <;> rw [hd] at he <;>
    exact ⟨congrArg Prod.fst he, congrArg Prod.snd he⟩

theorem gfin_ev (hwf : ∀ i, ∀ d ∈ sys.deps i, d < i) (x : X) (c0 : sys.State) (i : Nat) :
    gfinS sys x c0 i = iterF (sys.nx x i (sys.ins (gfinR sys x c0) i)) (sys.step i).k (c0 i) ∧
    gfinR sys x c0 i = (sys.ev x i (sys.ins (gfinR sys x c0) i) (gfinS sys x c0 i)).2 := by
  have he : (gfinS sys x c0 i, gfinR sys x c0 i) = _ :=
    fuelRec_eq (α := fun i => sys.S i × R) (okv := sys.rv.okv) hwf (fun _ p => p.2)
      (fun i o => (iterF (sys.nx x i o) (sys.step i).k (c0 i),
        (sys.ev x i o (iterF (sys.nx x i o) (sys.step i).k (c0 i))).2))
      (gfinF sys x c0)
      (fun fuel i => by
        rw [gfinF]
        -- a step without inputs stays where it is, whatever `k`
        cases depVals sys.rv.okv (fun d => (gfinF sys x c0 fuel d).2) (sys.deps i) with
        | some vs => rfl
        | none => exact Prod.ext (iterF_fixed rfl _).symm rfl) i
  obtain ⟨hS, hR⟩ := Prod.mk.inj he
  rw [← hS] at hR
  exact ⟨hS, hR⟩

theorem bound_add_k_le (sys : GSys X V R) {d i t : Nat} (h : d < i) (ht : sys.bound i ≤ t) :
    sys.bound d + (sys.step d).k ≤ t := by
  induction h with
  | refl => exact Nat.le_of_succ_le ht
  | step _ ih => exact ih (Nat.le_trans (Nat.le_add_right_of_le (Nat.le_add_right _ _)) ht)

theorem bound_eq_sum (sys : GSys X V R) (n : Nat) :
    sys.bound n = ((List.range n).map fun i => (sys.step i).k + 1).sum := by
  induction n with
  | zero => rfl
  | succ n ih =>
    rw [List.range_succ, List.map_append, List.sum_append]
    -- `bound (n + 1)` and the sum over `[n]` unfold to `· + (k n + 1)`
    exact congrArg (· + ((sys.step n).k + 1)) ih

theorem bound_uniform (sys : GSys X V R) (k i : Nat) (h : ∀ j, j < i → (sys.step j).k = k) :
    sys.bound i = i * (k + 1) := by
  rw [bound_eq_sum, List.map_congr_left (g := fun _ => k + 1) fun j hj => by rw [h j (List.mem_range.1 hj)],
    List.map_const', List.sum_replicate_nat, List.length_range]

/-- A step is evaluated on its final inputs from pass `bound i` on, so after `t` passes it is `j` such evaluations away
    from its limit state for `j = k` and for every `j ≤ k` with `bound i + (k - j) ≤ t`; with `t = 0` this says that the
    limit of its state is the limit state, which is what faulty passes preserve. -/
def GProg (sys : GSys X V R) (x : X) (c0 : sys.State) (t : Nat) (c : sys.State) : Prop :=
  ∀ i, i < sys.n → ∀ j, j ≤ (sys.step i).k → (j = (sys.step i).k ∨ sys.bound i + (sys.step i).k ≤ t + j) →
    iterF (sys.nx x i (sys.ins (gfinR sys x c0) i)) j (c i) = gfinS sys x c0 i

section prog
variable {x : X} {c0 c c' : sys.State} {r : Nat → R} {t : Nat}

theorem gprog_zero (hpg : GProg sys x c0 t c) {i : Nat} (hi : i < sys.n) :
    iterF (sys.nx x i (sys.ins (gfinR sys x c0) i)) (sys.step i).k (c i) = gfinS sys x c0 i :=
  hpg i hi _ (Nat.le_refl _) (Or.inl rfl)

theorem gprog_of_zero {c : sys.State} (h : ∀ i, i < sys.n →
    iterF (sys.nx x i (sys.ins (gfinR sys x c0) i)) (sys.step i).k (c i) = gfinS sys x c0 i) :
    GProg sys x c0 0 c := by
  intro i hi j hj ht
  obtain rfl : j = (sys.step i).k := ht.elim id fun ht => by omega
  exact h i hi

theorem gprog_init (h : GHyps sys) (x : X) (c0 : sys.State) : GProg sys x c0 0 c0 :=
  gprog_of_zero fun i _ => (gfin_ev h.wf x c0 i).1.symm

theorem gfpass_sound (h : GHyps sys) (hpg : GProg sys x c0 t c) (hp : FPassOn sys x c c' r) :
    (∀ i, i < sys.n → ∀ v, sys.rv.okv (r i) = some v → sys.rv.okv (gfinR sys x c0 i) = some v) ∧
    GProg sys x c0 0 c' := by
  have key : ∀ i, i < sys.n →
      (∀ v, sys.rv.okv (r i) = some v → sys.rv.okv (gfinR sys x c0 i) = some v) ∧
      iterF (sys.nx x i (sys.ins (gfinR sys x c0) i)) (sys.step i).k (c' i) = gfinS sys x c0 i := by
    intro i
    induction i using Nat.strongRecOn with
    | ind i ih =>
      intro hi
      have hst := h.steps i
      have hlim := gprog_zero hpg hi
      cases hd : sys.ins r i with
      | none =>
        -- not evaluated
        have hpi := hp i hi
        rw [hd] at hpi
        obtain ⟨hc', hnone⟩ : c' i = c i ∧ sys.rv.okv (r i) = none :=
          hpi.elim (fun e => ⟨e.1, by rw [e.2]; exact h.gated_not_ok⟩) id
        exact ⟨fun v hv => (by rw [hnone] at hv; cases hv), by rw [hc']; exact hlim⟩
      | some vs =>
        -- the dependencies are Ok with their final values, so the step is evaluated on its final inputs
        have hfd : sys.ins r i = sys.ins (gfinR sys x c0) i := hd.trans
          (depVals_mono (fun d hdm v hv => (ih d (h.wf i d hdm) (Nat.lt_trans (h.wf i d hdm) hi)).1 v hv) hd).symm
        have hpi := hp i hi
        rw [hfd] at hpi
        rcases hpi with ⟨hc', hr⟩ | ⟨hF, hnone⟩
        · refine ⟨fun v hv => ?_, ?_⟩
          · rw [hr] at hv
            -- an Ok answer changed nothing: the state is a fixed point, hence already the limit state
            have hci : c i = gfinS sys x c0 i :=
              (iterF_fixed (nx_quiet hst (h.ok_not_err _ v hv)) _).symm.trans hlim
            rw [(gfin_ev h.wf x c0 i).2, ← hci]
            exact hv
          · rw [hc', iterF_next_of_fixed (nx_stable hst x _ (c i))]
            exact hlim
        · exact ⟨fun v hv => (by rw [hnone] at hv; cases hv), (lim_faulty hst hF).trans hlim⟩
  exact ⟨fun i hi => (key i hi).1, gprog_of_zero fun i hi => (key i hi).2⟩

theorem gpass_progress (h : GHyps sys) (hpg : GProg sys x c0 t c) (hp : PassOn sys x c c' r) :
    GProg sys x c0 (t + 1) c' ∧
    (∀ i, i < sys.n → sys.bound i + (sys.step i).k ≤ t → r i = gfinR sys x c0 i) := by
  -- step `i` is evaluated on its final inputs from pass `bound i` on and shows its final result from pass `bound i + k` on
  have key : ∀ i, i < sys.n → (sys.bound i ≤ t → sys.ins r i = sys.ins (gfinR sys x c0) i) ∧
      (sys.bound i + (sys.step i).k ≤ t → r i = gfinR sys x c0 i) := by
    intro i
    induction i using Nat.strongRecOn with
    | ind i ih =>
      intro hi
      have hins : sys.bound i ≤ t → sys.ins r i = sys.ins (gfinR sys x c0) i := fun hb =>
        depVals_congr fun d hdm => by
          have hdi := h.wf i d hdm
          rw [(ih d hdi (Nat.lt_trans hdi hi)).2 (bound_add_k_le sys hdi hb)]
      refine ⟨hins, fun ht => ?_⟩
      have hci : c i = gfinS sys x c0 i := hpg i hi 0 (Nat.zero_le _) (Or.inr ht)
      rw [(hp i hi).2, hins (Nat.le_trans (Nat.le_add_right _ _) ht), hci]
      exact (gfin_ev h.wf x c0 i).2.symm
  refine ⟨fun i hi j hj ht => ?_, fun i hi => (key i hi).2⟩
  by_cases hjk : j = (sys.step i).k
  · subst hjk; exact gprog_zero (gfpass_sound h hpg hp.faulty).2 hi
  · -- an evaluation short of `k` counts only from pass `bound i` on
    rw [(hp i hi).1, (key i hi).1 (by omega)]
    -- `iterF f j (f a)` is `iterF f (j + 1) a` by definition
    exact hpg i hi (j + 1) (by omega) (Or.inr (by omega))

theorem gprog_recovers (h : GHyps sys) (ht : sys.bound sys.n ≤ t) (hpg : GProg sys x c0 t c) :
    (∀ i, i < sys.n → c i = gfinS sys x c0 i) ∧
    (∀ c' r, PassOn sys x c c' r → ∀ i, i < sys.n → c' i = c i ∧ r i = gfinR sys x c0 i) := by
  have settled : ∀ {t c}, sys.bound sys.n ≤ t → GProg sys x c0 t c → ∀ i, i < sys.n → c i = gfinS sys x c0 i :=
    fun ht hpg i hi => hpg i hi 0 (Nat.zero_le _) (Or.inr (bound_add_k_le sys hi ht))
  refine ⟨settled ht hpg, fun c' r hp i hi => ?_⟩
  obtain ⟨hpg', hres⟩ := gpass_progress h hpg hp
  exact ⟨(settled (Nat.le_succ_of_le ht) hpg' i hi).trans (settled ht hpg i hi).symm,
    hres i hi (bound_add_k_le sys hi ht)⟩

theorem greach_prog (h : GHyps sys) (hr : GReach sys x c0 c) : GProg sys x c0 0 c := by
  induction hr with
  | refl => exact gprog_init h x c0
  | step _ hp ih => exact (gfpass_sound h ih hp.on).2

theorem gprog_cleanRun (h : GHyps sys) {N : Nat} {cN : sys.State}
    (hpg : GProg sys x c0 t c) (hrun : GCleanRun sys x N c cN) : GProg sys x c0 (t + N) cN := by
  induction hrun generalizing t with
  | zero => exact hpg
  | @succ N _ _ _ _ hp _ ih =>
    rw [show t + (N + 1) = t + 1 + N by omega]
    exact ih (gpass_progress h hpg hp.on).1

theorem greach_outside (hr : GReach sys x c0 c) : ∀ i, sys.n ≤ i → c i = c0 i := by
  induction hr with
  | refl => intro i _; rfl
  | step _ hp ih => intro i hi; rw [hp.2 i hi, ih i hi]

theorem gcleanRun_outside {N : Nat} {cN : sys.State} (hrun : GCleanRun sys x N c cN) :
    ∀ i, sys.n ≤ i → cN i = c i := by
  induction hrun with
  | zero => intro i _; rfl
  | succ hp _ ih => intro i hi; rw [ih i hi, hp.2 i hi]

end prog

theorem grecovers (h : GHyps sys) {x : X} {c0 c cN : sys.State} {N : Nat}
    (hreach : GReach sys x c0 c) (hN : sys.bound sys.n ≤ N) (hc : GCleanRun sys x N c cN) :
    (∀ i, i < sys.n → cN i = gfinS sys x c0 i) ∧
    (∀ c' r, GIsPass sys x cN c' r → ∀ i, i < sys.n → c' i = cN i ∧ r i = gfinR sys x c0 i) := by
  obtain ⟨h1, h2⟩ := gprog_recovers h (by omega) (gprog_cleanRun h (greach_prog h hreach) hc)
  exact ⟨h1, fun c' r hp => h2 c' r hp.on⟩

section flat
variable {S V R : Type}

/-- an error is any result that is not Ok, so that `Hyps.ok_unchanged` is `StepOK.quiet_unchanged` -/
def DagSys.toG (sys : DagSys S V R) (F : Nat → List V → S → S → Prop) : GSys Unit V R where
  n := sys.n
  S := fun _ => S
  deps := sys.deps
  step := fun i => ⟨fun _ vs s => sys.pass i vs s, fun _ vs s s' => F i vs s s', 1⟩
  rv := ⟨sys.okv, fun r => (sys.okv r).isNone, sys.gated⟩

variable {sys : DagSys S V R} {F : Nat → List V → S → S → Prop}

theorem toG_hyps (h : Hyps sys F) : GHyps (sys.toG F) where
  wf := h.wf
  gated_not_ok := h.gated_not_ok
  ok_not_err := fun r v (hv : sys.okv r = some v) => by show (sys.okv r).isNone = false; rw [hv]; rfl
  steps := fun i =>
    ⟨fun _ vs s => h.stable i vs s,
     fun _ vs s (hq : (sys.okv (sys.pass i vs s).2).isNone = false) =>
      let ⟨v, hv⟩ := Option.isSome_iff_exists.1 (Option.isNone_eq_false_iff.1 hq)
      h.ok_unchanged i vs s v hv,
     fun _ vs s s' hF => h.faulty_same_target i vs s s' hF⟩

theorem toG_bound (sys : DagSys S V R) (F : Nat → List V → S → S → Prop) (n : Nat) :
    (sys.toG F).bound n = 2 * n :=
  (bound_uniform _ 1 n fun _ _ => rfl).trans (Nat.mul_comm n 2)

theorem finF_toG (F : Nat → List V → S → S → Prop) (c0 : Nat → S) :
    ∀ fuel, finF sys c0 fuel = gfinF (sys.toG F) () c0 fuel
  | 0 => rfl
  | fuel + 1 => funext fun i => by
    simp only [finF, gfinF]
    rw [finF_toG F c0 fuel]
    rfl

theorem isPass_toG (F : Nat → List V → S → S → Prop) {c c' : Nat → S} {r : Nat → R} (hp : IsPass sys c c' r) :
    PassOn (sys.toG F) () c c' r := by
  intro i hi
  have := hp i hi
  show c' i = (GSys.ev (sys.toG F) () i (depVals sys.okv r (sys.deps i)) (c i)).1 ∧
    r i = (GSys.ev (sys.toG F) () i (depVals sys.okv r (sys.deps i)) (c i)).2
  cases hd : depVals sys.okv r (sys.deps i) <;> rw [hd] at this <;> exact this

theorem isFPass_toG {c c' : Nat → S} {r : Nat → R} (hp : IsFPass sys F c c' r) : FPassOn (sys.toG F) () c c' r := by
  intro i hi
  have := hp i hi
  show (c' i = (GSys.ev (sys.toG F) () i (depVals sys.okv r (sys.deps i)) (c i)).1 ∧
      r i = (GSys.ev (sys.toG F) () i (depVals sys.okv r (sys.deps i)) (c i)).2) ∨
    (GSys.FOn (sys.toG F) () i (depVals sys.okv r (sys.deps i)) (c i) (c' i) ∧ sys.okv (r i) = none)
  cases hd : depVals sys.okv r (sys.deps i) <;> rw [hd] at this
  · exact Or.inr this
  · exact this.imp id fun h => ⟨Or.inr h.1, h.2⟩

theorem reach_prog_toG (h : Hyps sys F) {c0 c : Nat → S} (hr : Reach sys F c0 c) :
    GProg (sys.toG F) () c0 0 c := by
  induction hr with
  | refl => exact gprog_init (toG_hyps h) () c0
  | step _ hp ih => exact (gfpass_sound (toG_hyps h) ih (isFPass_toG hp)).2

theorem cleanRun_prog_toG (h : Hyps sys F) {c0 c cN : Nat → S} {t N : Nat}
    (hpg : GProg (sys.toG F) () c0 t c) (hrun : CleanRun sys N c cN) : GProg (sys.toG F) () c0 (t + N) cN := by
  induction hrun generalizing t with
  | zero => exact hpg
  | @succ N _ _ _ _ hp _ ih =>
    rw [show t + (N + 1) = t + 1 + N by omega]
    exact ih (gpass_progress (toG_hyps h) hpg (isPass_toG F hp)).1

theorem dagSys_recovers (h : Hyps sys F) {c0 c cN : Nat → S} {N : Nat}
    (hreach : Reach sys F c0 c) (hN : 2 * sys.n ≤ N) (hc : CleanRun sys N c cN) :
    (∀ i, i < sys.n → cN i = finS sys c0 i) ∧
    (∀ c' r, IsPass sys cN c' r → ∀ i, i < sys.n → c' i = cN i ∧ r i = finR sys c0 i) := by
  obtain ⟨h1, h2⟩ := gprog_recovers (toG_hyps h) (by rw [toG_bound]; show 2 * sys.n ≤ 0 + N; omega)
    (cleanRun_prog_toG h (reach_prog_toG h hreach) hc)
  simp only [finS, finR, finF_toG F c0]
  exact ⟨h1, fun c' r hp => h2 c' r (isPass_toG F hp)⟩

end flat

theorem const_stepOK {X S : Type} (rv : ResView V R) (res : X → List V → R) :
    StepOK rv (constStepper (S := S) res) :=
  ⟨fun _ _ _ => rfl, fun _ _ _ _ => rfl, fun _ _ _ _ h => h.elim⟩

section rf
variable {S : Type} (m : RMach S) (cfg : RfCfg)

theorem rfPass_fixed_after (hconv : Converges m) (hdel : ∀ s, m.present (m.delete s) = false) (s : S) :
    (rfPass m cfg none (iterF (fun s => (rfPass m cfg none s).st) (rfK cfg) s)).st =
      iterF (fun s => (rfPass m cfg none s).st) (rfK cfg) s := by
  fun_cases rfK cfg
  -- delete-to-recreate: two evaluations
  · exact rfPass_recreate_fixed m cfg hconv hdel s
  -- patch / never: one evaluation, which deletes (`deleteIfExists`) or creates / patches
  · next hpol =>
    cases hde : cfg.deleteIfExists with
    | true => exact rfPass_delete_fixed m cfg hde hdel s
    | false => exact rfPass_stable m cfg hconv hpol hde s

end rf

theorem rf_stepOK {S : Type} (rv : ResView V R) (mach : X → List V → RMach S) (cfg : X → List V → RfCfg)
    (k : Nat) (ofAns : X → List V → RAns S → R)
    (hconv : ∀ x vs, Converges (mach x vs))
    (hdel : ∀ x vs s, (mach x vs).present ((mach x vs).delete s) = false)
    (hk : ∀ x vs, rfK (cfg x vs) ≤ k)
    (hans : ∀ x vs a, rv.isErr (ofAns x vs a) = false → ∃ seen, a = .ok seen) :
    StepOK rv (rfStepper mach cfg k ofAns) := by
  have hstable : ∀ x vs s, (rfStepper mach cfg k ofAns).next x vs ((rfStepper mach cfg k ofAns).lim x vs s) =
      (rfStepper mach cfg k ofAns).lim x vs s := fun x vs s =>
    iterF_fixed_of_le (rfPass_fixed_after (mach x vs) (cfg x vs) (hconv x vs) (hdel x vs) s) (hk x vs)
  refine ⟨hstable, fun x vs s hq => ?_, fun x vs s s' hF => ?_⟩
  · obtain ⟨seen, hs⟩ := hans x vs _ hq
    exact (rfPass_ok_unchanged (mach x vs) (cfg x vs) none s seen hs).1
  · obtain ⟨f, rfl⟩ := hF
    rcases rfPass_state_between (mach x vs) (cfg x vs) f s with e | e
    · rw [e]
    · rw [e]; exact iterF_next_of_fixed (hstable x vs s)

theorem rfK_le_two (cfg : RfCfg) : rfK cfg ≤ 2 := by
  fun_cases rfK cfg <;> omega

theorem rfLeafAns_quiet {S : Type} {ret : JVal → S → JVal} {x : JVal} {vs : List JVal} {a : RAns S}
    (h : stepRv.isErr (rfLeafAns ret x vs a) = false) : ∃ seen, a = .ok seen := by
  cases a with
  | ok seen => exact ⟨seen, rfl⟩
  | _ => cases h

section components
variable {T J S Φ : Type} {rv : ResView V R} {L : Stepper X V R T}

/-- The state is independent components `π j` plus a frame `φ` that no pass touches (`hext`: together they determine
    it); component `j` is stepped by `item j` exactly in the passes in which it is `active`.  `vec_stepOK`,
    `onFst_stepOK` and `onSndAt_stepOK` are the instances. -/
theorem stepOK_of_components (π : J → T → S) (φ : T → Φ) (item : J → Stepper X V R S)
    (active : X → List V → J → Prop) [∀ x vs j, Decidable (active x vs j)]
    (hext : ∀ t t', φ t = φ t' → (∀ j, π j t = π j t') → t = t')
    (hitem : ∀ j, StepOK rv (item j)) (hk : ∀ j, (item j).k ≤ L.k)
    (hφ : ∀ x vs t, φ (L.next x vs t) = φ t)
    (hπ : ∀ x vs t j, π j (L.next x vs t) = if active x vs j then (item j).next x vs (π j t) else π j t)
    (hquiet : ∀ x vs t, rv.isErr (L.pass x vs t).2 = false →
      ∀ j, active x vs j → rv.isErr ((item j).pass x vs (π j t)).2 = false)
    (hF : ∀ x vs t t', L.F x vs t t' →
      φ t' = φ t ∧ ∀ j, π j t' = π j t ∨ (active x vs j ∧ (item j).F x vs (π j t) (π j t'))) :
    StepOK rv L := by
  have hlimφ : ∀ x vs t, φ (L.lim x vs t) = φ t := fun x vs t =>
    (iterF_map (f' := id) (hφ x vs) L.k t).trans (iterF_fixed rfl _)
  have hlim : ∀ x vs t j, π j (L.lim x vs t) =
      if active x vs j then (item j).lim x vs (π j t) else π j t := by
    intro x vs t j
    split
    · next hj =>
      exact (iterF_map (fun t => (hπ x vs t j).trans (if_pos hj)) L.k t).trans
        (iterF_ge ((hitem j).stable x vs _) (hk j))
    · next hj =>
      exact (iterF_map (f' := id) (fun t => (hπ x vs t j).trans (if_neg hj)) L.k t).trans (iterF_fixed rfl _)
  refine ⟨fun x vs t => hext _ _ (hφ x vs _) fun j => ?_, fun x vs t hq => hext _ _ (hφ x vs t) fun j => ?_,
    fun x vs t t' hf => hext _ _ ?_ fun j => ?_⟩
  · rw [hπ, hlim]
    split
    · exact (hitem j).stable x vs _
    · rfl
  · show π j (L.next x vs t) = π j t
    rw [hπ]
    split
    · next hj => exact (hitem j).quiet_unchanged x vs _ (hquiet x vs t hq j hj)
    · rfl
  · exact ((hlimφ x vs t').trans (hF x vs t t' hf).1).trans (hlimφ x vs t).symm
  · rw [hlim, hlim]
    rcases (hF x vs t t' hf).2 j with e | ⟨hin, e⟩
    · rw [e]
    · rw [if_pos hin, if_pos hin]
      exact (hitem j).faulty_same_limit x vs _ _ e

end components

theorem vec_stepOK {K S : Type} [DecidableEq K] (rv : ResView V R) (keys : X → List V → List K)
    (item : K → Stepper X V R S) (k : Nat) (comb : X → List V → List R → R)
    (hitem : ∀ key, StepOK rv (item key)) (hk : ∀ key, (item key).k ≤ k)
    (hcomb : ∀ x vs rs, rv.isErr (comb x vs rs) = false → ∀ r ∈ rs, rv.isErr r = false) :
    StepOK rv (vecStepper keys item k comb) :=
  stepOK_of_components (π := fun key s => s key) (φ := fun _ => ()) (item := item)
    (active := fun x vs key => key ∈ keys x vs)
    (hext := fun _ _ _ h => funext h) (hitem := hitem) (hk := hk)
    (hφ := fun _ _ _ => rfl) (hπ := fun _ _ _ _ => rfl)
    (hquiet := fun x vs _ hq j hj => hcomb x vs _ hq _ (List.mem_map.2 ⟨j, hj, rfl⟩))
    (hF := fun _ _ _ _ hF => ⟨rfl, hF⟩)

section lift
variable {S T N : Type} {rv : ResView V R}

theorem onFst_stepOK (st : Stepper X V R S) (h : StepOK rv st) : StepOK rv (st.onFst (T := T)) :=
  stepOK_of_components (π := fun (_ : Unit) p => p.1) (φ := fun p => p.2) (item := fun _ => st)
    (active := fun _ _ _ => True)
    (hext := fun _ _ h1 h2 => Prod.ext (h2 ()) h1) (hitem := fun _ => h) (hk := fun _ => Nat.le_refl _)
    (hφ := fun _ _ _ => rfl) (hπ := fun _ _ _ _ => (if_pos trivial).symm)
    (hquiet := fun _ _ _ hq _ _ => hq)
    (hF := fun _ _ _ _ hF => ⟨hF.1, fun _ => Or.inr ⟨trivial, hF.2⟩⟩)

theorem onSndAt_stepOK [DecidableEq N] (name : N) (st : Stepper X V R T) (h : StepOK rv st) :
    StepOK rv (Stepper.onSndAt (S := S) name st) :=
  stepOK_of_components (π := fun m p => p.2 m) (φ := fun p => p.1) (item := fun _ => st)
    (active := fun _ _ m => m = name)
    (hext := fun _ _ h1 h2 => Prod.ext h1 (funext h2)) (hitem := fun _ => h) (hk := fun _ => Nat.le_refl _)
    (hφ := fun _ _ _ => rfl) (hπ := fun _ _ _ _ => rfl)
    (hquiet := fun _ _ _ hq _ hm => hm ▸ hq)
    (hF := fun _ _ _ _ hF => ⟨hF.1, fun m =>
      if hm : m = name then Or.inr ⟨hm, hm ▸ hF.2.2⟩ else Or.inl (hF.2.1 m hm)⟩)

end lift

section dag
variable {X' : Type} {inner : GSys X' V R}

theorem gcleanRun_iter (hwf : ∀ i, ∀ d ∈ inner.deps i, d < i) (x' : X') :
    ∀ (N : Nat) (s : inner.State), GCleanRun inner x' N s (iterF (gpassS inner x') N s)
  | 0, s => .zero s
  | N + 1, s => .succ (gpassF_isPass hwf x' s) (gcleanRun_iter hwf x' N (gpassS inner x' s))

theorem giter_eq (h : GHyps inner) {x' : X'} {s0 s : inner.State} (hr : GReach inner x' s0 s) {N N' : Nat}
    (hN : inner.bound inner.n ≤ N) (hN' : inner.bound inner.n ≤ N') :
    iterF (gpassS inner x') N s = iterF (gpassS inner x') N' s0 := by
  have hrun := gcleanRun_iter h.wf x' N s
  have hrun' := gcleanRun_iter h.wf x' N' s0
  funext i
  by_cases hi : i < inner.n
  · exact ((grecovers h hr hN hrun).1 i hi).trans ((grecovers h (.refl s0) hN' hrun').1 i hi).symm
  · rw [gcleanRun_outside hrun i (Nat.not_lt.1 hi), gcleanRun_outside hrun' i (Nat.not_lt.1 hi)]
    exact greach_outside hr i (Nat.not_lt.1 hi)

theorem dag_stepOK (rv : ResView V R) (inner : GSys X' V R) (trig : X → List V → X')
    (agg : X → List V → (Nat → R) → R) (h : GHyps inner)
    (hagg : ∀ x vs r, rv.isErr (agg x vs r) = false → ∀ j, j < inner.n → inner.rv.isErr (r j) = false) :
    StepOK rv (dagStepper inner trig agg) := by
  refine ⟨fun x vs s => ?_, fun x vs s hq => ?_, fun x vs s s' hF => ?_⟩
  · -- one pass more than `bound n` leads where `bound n` passes lead
    show gpassS inner (trig x vs) (iterF (gpassS inner (trig x vs)) (inner.bound inner.n) s) = _
    rw [← iterF_comm (gpassS inner (trig x vs))]
    -- `iterF f n (f s)` is `iterF f (n + 1) s` by definition
    exact giter_eq h (.refl s) (N := inner.bound inner.n + 1) (Nat.le_succ _) (Nat.le_refl _)
  · have hp := gpassF_isPass h.wf (trig x vs) s
    funext i
    show gpassS inner (trig x vs) s i = s i
    by_cases hi : i < inner.n
    · -- no inner step answered with an error, so none moved
      rw [(hp.on i hi).1]
      apply nx_quiet (h.steps i)
      rw [← (hp.on i hi).2]
      exact hagg x vs _ hq i hi
    · exact hp.2 i (Nat.not_lt.1 hi)
  · obtain ⟨r, hF⟩ := hF
    exact giter_eq h (.step (.refl s) hF) (Nat.le_refl _) (Nat.le_refl _)

end dag

theorem comap_stepOK {X' S : Type} (rv : ResView V R) (st : Stepper X' V R S) (fx : X → List V → X')
    (fvs : X → List V → List V) (h : StepOK rv st) : StepOK rv (st.comap fx fvs) :=
  ⟨fun x vs s => h.stable (fx x vs) (fvs x vs) s,
   fun x vs s hq => h.quiet_unchanged (fx x vs) (fvs x vs) s hq,
   fun x vs s s' hF => h.faulty_same_limit (fx x vs) (fvs x vs) s s' hF⟩

theorem built_stepOK {rv : ResView V R} {X S : Type} {st : Stepper X V R S} (h : Built rv st) : StepOK rv st := by
  induction h with
  | rf mach cfg k ofAns hconv hdel hk hans => exact rf_stepOK rv mach cfg k ofAns hconv hdel hk hans
  | pure res => exact const_stepOK (S := Unit) rv res
  | vec keys item k comb _ hk hcomb ih => exact vec_stepOK rv keys item k comb ih hk hcomb
  | dag inner trig agg hrv hwf hgated hok _ hagg ih =>
    subst hrv
    exact dag_stepOK inner.rv inner trig agg ⟨hwf, hgated, hok, ih⟩ hagg
  | comap st fx fvs _ ih => exact comap_stepOK rv st fx fvs ih

open Koreo.Workflow

theorem combStep_quiet (eval : EvalFn) (s : Step) (x : JVal) (vs : List JVal) (rs : List StepOut)
    (h : stepRv.isErr (combStep eval s x vs rs) = false) : ∀ r ∈ rs, stepRv.isErr r = false := by
  revert h
  fun_cases combStep eval s x vs rs
  -- the gate answers by itself and nothing was evaluated
  case case1 => intro _ r hr; cases hr
  -- one evaluation, and its result is the step's
  case case3 r0 => intro h r hr; rw [List.mem_singleton.1 hr]; exact h
  -- forEach: an item that failed makes the combined result an error
  case case5 =>
    exact fun h o ho => Bool.eq_false_iff.2 fun he => Bool.eq_false_iff.1 h (combineItems_err ⟨o, ho, he⟩)
  -- a number of results that does not fit the gate is answered PermFail
  all_goals intro h; cases h

theorem indexOf_lt_of_wf {seen : List Label} {steps : List Step} (h : wfSteps seen steps = true) :
    ∀ i s, steps[i]? = some s → ∀ d ∈ s.deps, d ∈ seen ∨ indexOf d steps < i := by
  induction steps generalizing seen with
  | nil => intro i s hs; rw [List.getElem?_nil] at hs; cases hs
  | cons s0 rest ih =>
    obtain ⟨hdeps, -, hrest⟩ := wfSteps_cons_iff.1 h
    intro i s hs d hd
    cases i with
    | zero =>
      rw [List.getElem?_cons_zero] at hs
      cases hs
      exact Or.inl (hdeps d hd)
    | succ i =>
      rw [List.getElem?_cons_succ] at hs
      show d ∈ seen ∨ (if s0.label = d then 0 else indexOf d rest + 1) < i + 1
      split
      · exact Or.inr (Nat.succ_pos i)
      · next hne =>
        refine (ih hrest i s hs d hd).imp (fun h' => ?_) Nat.succ_lt_succ
        exact (List.mem_append.1 h').resolve_right fun h'' => hne (List.mem_singleton.1 h'').symm

section ofwf
variable {S₀ : Type} (eval : EvalFn) (tgt : Target → Stepper JVal JVal StepOut S₀) (k : Nat)

theorem itemOf_ok (htgt : ∀ t, StepOK stepRv (tgt t)) (hk : ∀ t, (tgt t).k ≤ k) (s : Step) (key : EKey) :
    StepOK stepRv (itemOf tgt eval s key) ∧ (itemOf tgt eval s key).k ≤ k := by
  fun_cases itemOf tgt eval s key
  -- a target, fed with the step's inputs
  · exact ⟨comap_stepOK _ _ _ _ (htgt _), hk _⟩
  -- the switch selected nothing
  · exact ⟨const_stepOK _ _, Nat.zero_le _⟩

theorem ofWorkflow_hyps (wf : Workflow) (hwf : wf.WF = true)
    (htgt : ∀ t, StepOK stepRv (tgt t)) (hk : ∀ t, (tgt t).k ≤ k) : GHyps (ofWorkflow eval tgt k wf) := by
  refine ⟨?_, rfl, ?_, ?_⟩
  · intro i d hd
    show d < i
    simp only [ofWorkflow] at hd
    cases hs : wf.steps[i]? with
    | none => simp [hs] at hd
    | some s =>
      simp only [hs, List.mem_map] at hd
      obtain ⟨l, hl, rfl⟩ := hd
      exact (indexOf_lt_of_wf (seen := []) hwf i s hs l hl).resolve_left List.not_mem_nil
  · intro r v h
    show r.res.isErr = false
    have : r.res.okVal? = some v := h
    cases hr : r.res with
    | ok _ => rfl
    | _ => rw [hr] at this; cases this
  · intro i
    show StepOK stepRv (match wf.steps[i]? with
      | some s => vecStepper (evalKeys eval s) (itemOf tgt eval s) k (combStep eval s)
      | none => constStepper fun _ _ => ⟨.depSkip, .null⟩)
    cases wf.steps[i]? with
    | none => exact const_stepOK _ _
    | some s =>
      exact vec_stepOK stepRv _ _ k _ (fun key => (itemOf_ok eval tgt k htgt hk s key).1)
        (fun key => (itemOf_ok eval tgt k htgt hk s key).2) (combStep_quiet eval s)

theorem ofWorkflow_bound (wf : Workflow) :
    (ofWorkflow eval tgt k wf).bound wf.steps.length = wf.steps.length * (k + 1) := by
  refine bound_uniform _ k _ fun j hj => ?_
  show (match wf.steps[j]? with
    | some s => vecStepper (evalKeys eval s) (itemOf tgt eval s) k (combStep eval s)
    | none => constStepper fun _ _ => ⟨.depSkip, .null⟩).k = k
  rw [List.getElem?_eq_getElem hj]
  rfl

end ofwf

theorem lookupL_zipIdx (r : Nat → StepOut) :
    ∀ (steps : List Step) (o : Nat), (labels steps).Nodup → ∀ j s, steps[j]? = some s →
      lookupL s.label ((steps.zipIdx o).map fun p => (p.1.label, r p.2)) = some (r (j + o)) := by
  intro steps
  induction steps with
  | nil => intro o _ j s hs; rw [List.getElem?_nil] at hs; cases hs
  | cons s0 rest ih =>
    intro o hnd j s hs
    simp only [labels, List.map_cons, List.nodup_cons] at hnd
    simp only [List.zipIdx_cons, List.map_cons, lookupL]
    cases j with
    | zero =>
      rw [List.getElem?_cons_zero] at hs
      cases hs
      rw [if_pos rfl, Nat.zero_add]
    | succ j =>
      rw [List.getElem?_cons_succ] at hs
      have hne : s0.label ≠ s.label := fun e =>
        hnd.1 (List.mem_map.2 ⟨s, List.mem_of_getElem? hs, e.symm⟩)
      rw [if_neg hne, ih (o + 1) hnd.2 j s hs]
      congr 2; omega

theorem subOut_isErr (r : WfResult) (api : List String) : (subOut r api).res.isErr = r.overall.isErr := by
  unfold subOut
  cases r.overall <;> rfl

theorem aggOf_quiet (eval : EvalFn) (w : Workflow) (hwf : w.WF = true) (r : Nat → StepOut)
    (h : (aggOf eval w r).res.isErr = false) : ∀ j, j < w.steps.length → (r j).res.isErr = false := by
  intro j hj
  have hl := lookupL_zipIdx r w.steps 0 (WF_nodup hwf) j _ (List.getElem?_eq_getElem hj)
  rw [Nat.add_zero] at hl
  -- were `r j` an error, so would be the overall result
  refine Bool.eq_false_iff.2 fun he => Bool.eq_false_iff.1 h ?_
  show (subOut (collect eval w _) []).res.isErr = true
  rw [subOut_isErr]
  exact overallOf_err ⟨_, mem_listed_of_lookup (wf := w) (List.getElem_mem hj) hl, he⟩

section depth
variable {S : Type} (eval : EvalFn) (leaf : String → Stepper JVal JVal StepOut S) (kleaf len : Nat) (defs : Env)

theorem kAt_ge_leaf : ∀ n, kleaf ≤ kAt kleaf len n
  | 0 => Nat.le_refl _
  | _ + 1 => Nat.le_max_left _ _

theorem tgtAt_ok (hleaf : ∀ id, StepOK stepRv (leaf id)) (hkleaf : ∀ id, (leaf id).k ≤ kleaf)
    (hdefs : ∀ name w, lookupL name defs = some w → w.WF = true ∧ w.steps.length ≤ len) :
    ∀ n t, StepOK stepRv (tgtAt eval leaf kleaf len defs n t) ∧
      (tgtAt eval leaf kleaf len defs n t).k ≤ kAt kleaf len n := by
  intro n
  induction n with
  | zero =>
    intro t
    cases t with
    | fn id => exact ⟨hleaf id, hkleaf id⟩
    | wf name => exact ⟨const_stepOK _ _, Nat.zero_le _⟩
  | succ n ih =>
    intro t
    cases t with
    | fn id =>
      exact ⟨onFst_stepOK _ (hleaf id), Nat.le_trans (hkleaf id) (kAt_ge_leaf kleaf len (n + 1))⟩
    | wf name =>
      simp only [tgtAt]
      cases hl : lookupL name defs with
      | none => exact ⟨const_stepOK _ _, Nat.zero_le _⟩
      | some w =>
        obtain ⟨hwf, hlen⟩ := hdefs name w hl
        have hh := ofWorkflow_hyps eval (tgtAt eval leaf kleaf len defs n) (kAt kleaf len n) w hwf
          (fun t => (ih t).1) (fun t => (ih t).2)
        refine ⟨onSndAt_stepOK name _ (dag_stepOK stepRv _ _ _ hh fun _ _ => aggOf_quiet eval w hwf), ?_⟩
        show (ofWorkflow eval (tgtAt eval leaf kleaf len defs n) (kAt kleaf len n) w).bound w.steps.length ≤ _
        rw [ofWorkflow_bound eval _ _ w]
        exact Nat.le_trans (Nat.mul_le_mul_right _ hlen) (Nat.le_max_right _ _)

end depth

section faithful
variable {S₀ : Type} (eval : EvalFn) (tgt : Target → Stepper JVal JVal StepOut S₀)

section exits
variable {eval : EvalFn} {s : Step} {x : JVal} {vs : List JVal} {act : List (String × JVal)} {inputs : JVal}

theorem evalKeys_done {o : StepOut} (hg : gate eval x (drOf s.deps vs) s = .done o) : evalKeys eval s x vs = [] := by
  simp only [evalKeys, hg]

theorem evalKeys_single (hg : gate eval x (drOf s.deps vs) s = .single act inputs) :
    evalKeys eval s x vs = [(none, selTarget eval s.logic act inputs)] := by
  simp only [evalKeys, hg]

theorem evalKeys_each {key : String} {items : List JVal}
    (hg : gate eval x (drOf s.deps vs) s = .each act inputs key items) :
    evalKeys eval s x vs =
      items.zipIdx.map fun p => (some p.2, selTarget eval s.logic act (setKey key p.1 inputs)) := by
  simp only [evalKeys, hg]

theorem combStep_done {o : StepOut} (hg : gate eval x (drOf s.deps vs) s = .done o) :
    combStep eval s x vs [] = o := by
  simp only [combStep, hg]

theorem combStep_single (hg : gate eval x (drOf s.deps vs) s = .single act inputs) (r : StepOut) :
    combStep eval s x vs [r] = r := by
  simp only [combStep, hg]

theorem combStep_each {key : String} {items : List JVal}
    (hg : gate eval x (drOf s.deps vs) s = .each act inputs key items) (rs : List StepOut) :
    combStep eval s x vs rs = combineItems rs := by
  simp only [combStep, hg]

theorem evalInputsAt_single (hg : gate eval x (drOf s.deps vs) s = .single act inputs) :
    evalInputsAt eval s x vs none = inputs := by
  simp only [evalInputsAt, hg, Gate.inputsAt, Option.getD_some]

theorem evalInputsAt_each {key : String} {items : List JVal} {i : Nat} {it : JVal}
    (hg : gate eval x (drOf s.deps vs) s = .each act inputs key items) (hi : items[i]? = some it) :
    evalInputsAt eval s x vs (some i) = setKey key it inputs := by
  simp only [evalInputsAt, hg, Gate.inputsAt, hi, Option.map_some, Option.getD_some]

end exits

/-- for every label `l`: `frunOf` ignores the label of the step it answers for -/
theorem itemOf_result (s : Step) (x : JVal) (vs : List JVal) (cs : EKey → S₀) (l : Label) (idx : Option Nat)
    (act : List (String × JVal)) (inputs : JVal)
    (hin : evalInputsAt eval s x vs idx = inputs) :
    ((itemOf tgt eval s (idx, selTarget eval s.logic act inputs)).pass x vs
        (cs (idx, selTarget eval s.logic act inputs))).2 =
      (evalLogicF eval (frunOf tgt cs) l idx act inputs s.logic).1.out := by
  generalize s.logic = lg
  fun_cases evalLogicF eval (frunOf tgt cs) l idx act inputs lg
  -- `ref`, and a switch that selects a target: both sides are the target's reconciler on `inputs`
  · simp only [selTarget, itemOf, Stepper.comap, frunOf, FAns.out, hin]
  · simp only [selTarget, ‹select _ _ _ _ _ _ = _›, itemOf, Stepper.comap, frunOf, FAns.out, hin]
  · -- the switch selects nothing: PermFail on both sides
    simp only [selTarget]
    rfl

theorem zipOut_itemAnswers_done (frun : FRun) (l : Label) (act : List (String × JVal)) (inputs : JVal) (key : String)
    (lg : Logic) : ∀ (items : List JVal) (o : Nat),
      zipOut (itemAnswers eval frun l act inputs key lg o items) (items.map fun _ => Tag.done) =
        (items.zipIdx o).map fun p => (evalLogicF eval frun l (some p.2) act (setKey key p.1 inputs) lg).1.out
  | [], _ => rfl
  | _ :: rest, o => congrArg (_ :: ·) (zipOut_itemAnswers_done frun l act inputs key lg rest (o + 1))

theorem items_result (s : Step) (x : JVal) (vs : List JVal) (cs : EKey → S₀)
    (act : List (String × JVal)) (inputs : JVal) (key : String) (items : List JVal)
    (hg : gate eval x (drOf s.deps vs) s = .each act inputs key items) :
    items.zipIdx.map (fun p =>
        ((itemOf tgt eval s (some p.2, selTarget eval s.logic act (setKey key p.1 inputs))).pass x vs
          (cs (some p.2, selTarget eval s.logic act (setKey key p.1 inputs)))).2) =
      zipOut (itemAnswers eval (frunOf tgt cs) s.label act inputs key s.logic 0 items)
        (items.map fun _ => Tag.done) := by
  rw [zipOut_itemAnswers_done]
  refine List.map_congr_left fun p hp => ?_
  exact itemOf_result eval tgt s x vs cs s.label (some p.2) act (setKey key p.1 inputs)
    (evalInputsAt_each hg (List.mk_mem_zipIdx_iff_getElem?.1 hp))

end faithful

end Koreo.WorkflowFaults
