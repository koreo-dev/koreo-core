/-
  Lemmas for C13 (`Koreo/Predicates.lean`).  The filter keeps exactly the false assertions when every assertion
  can be negated and is an error otherwise (`filterNeg_eq`), so `decide` has a closed form over `falseOnes`
  (`decide_eq`; `decide_allBool` and `decide_of_negate_none` are its two branches) from which the property
  theorems are read off.  `outcomeOf` has one equation per kind, `vfRun` and `rfRunR` one at each exit Props/C13 uses.
-/
import Koreo.Predicates
namespace Koreo.Predicates

def Pred.isFalse (p : Pred) : Bool := match p.assert with | .ok false => true | _ => false

def falseOnes (ps : List Pred) : List Pred := ps.filter Pred.isFalse

def AllBool (ps : List Pred) : Prop := ∀ p ∈ ps, ∃ b, p.assert = .ok b

theorem Pred.isFalse_iff {p : Pred} : p.isFalse = true ↔ p.assert = .ok false := by
  unfold Pred.isFalse
  rcases p.assert with (_ | _) | _ | _ <;> simp

theorem negate_none_iff (a : AssertV) : negate a = none ↔ (a = .nonBool ∨ a = .failed) := by
  cases a <;> simp [negate]

theorem allBool_iff (ps : List Pred) : AllBool ps ↔ ps.all (fun p => (negate p.assert).isSome) = true := by
  rw [List.all_eq_true]
  refine forall₂_congr fun p _ => ?_
  cases p.assert <;> simp [negate]

theorem filterNeg_eq (ps : List Pred) :
    filterNeg ps = if ps.all (fun p => (negate p.assert).isSome) then some (falseOnes ps) else none := by
  induction ps with
  | nil => rfl
  | cons p ps ih =>
    simp only [filterNeg, ih, List.all_cons, falseOnes, List.filter_cons, Pred.isFalse]
    generalize (ps.all fun p => (negate p.assert).isSome) = c
    rcases p with ⟨a, k, m, d⟩
    -- one turn of the filter's loop, by whether the tail passes and what the head's assertion is
    cases c <;> rcases a with (_ | _) | _ | _ <;> rfl

theorem falseOnes_allTrue (xs : List Pred) (h : ∀ q ∈ xs, q.assert = .ok true) : falseOnes xs = [] :=
  List.filter_eq_nil_iff.mpr fun q hq => by simp [Pred.isFalse_iff, h q hq]

theorem falseOnes_split (pre post : List Pred) (p : Pred)
    (hpre : ∀ q ∈ pre, q.assert = .ok true) (hp : p.assert = .ok false) :
    falseOnes (pre ++ p :: post) = p :: falseOnes post := by
  have hpre' := falseOnes_allTrue pre hpre
  unfold falseOnes at hpre' ⊢
  rw [List.filter_append, hpre', List.nil_append, List.filter_cons_of_pos (Pred.isFalse_iff.mpr hp)]

theorem mem_falseOnes {ps : List Pred} {p : Pred} : p ∈ falseOnes ps ↔ p ∈ ps ∧ p.assert = .ok false := by
  rw [falseOnes, List.mem_filter, Pred.isFalse_iff]

theorem outcomeOf_none_iff (p : Pred) : outcomeOf p = none ↔ p.kind = .ok := by
  -- of the exits of `outcomeOf` only the one for the `ok` kind answers `none`
  fun_cases outcomeOf p <;> simp [*]

theorem outcomeOf_ok {p : Pred} (hk : p.kind = .ok) : outcomeOf p = none := by
  simp [outcomeOf, hk]

theorem outcomeOf_depSkip {p : Pred} {m : String} (hk : p.kind = .depSkip) (hm : p.message = .ok m) :
    outcomeOf p = some (.depSkip m) := by
  simp [outcomeOf, hk, hm]

theorem outcomeOf_skip {p : Pred} {m : String} (hk : p.kind = .skip) (hm : p.message = .ok m) :
    outcomeOf p = some (.skip m) := by
  simp [outcomeOf, hk, hm]

theorem outcomeOf_retry {p : Pred} {m : String} {d : Int} (hk : p.kind = .retry) (hm : p.message = .ok m)
    (hd : p.delay = .ok d) : outcomeOf p = some (.retry d m) := by
  simp [outcomeOf, hk, hm, hd]

theorem outcomeOf_retry_notInt {p : Pred} {m : String} (hk : p.kind = .retry) (hm : p.message = .ok m)
    (hd : p.delay = .notInt) : outcomeOf p = some (.evalFail .badDelay) := by
  simp [outcomeOf, hk, hm, hd]

theorem outcomeOf_permFail {p : Pred} {m : String} (hk : p.kind = .permFail) (hm : p.message = .ok m) :
    outcomeOf p = some (.permFail m) := by
  simp [outcomeOf, hk, hm]

theorem decide_eq (ps : List Pred) :
    decide ps =
      if ps.all (fun p => (negate p.assert).isSome) then
        if (falseOnes ps).any Pred.hasErr then some (.evalFail .member) else toResult (falseOnes ps)
      else some (.evalFail .assertion) := by
  unfold decide
  rw [filterNeg_eq]
  cases ps.all fun p => (negate p.assert).isSome <;> rfl

theorem decide_of_negate_none {ps : List Pred} {p : Pred} (hp : p ∈ ps) (hn : negate p.assert = none) :
    decide ps = some (.evalFail .assertion) := by
  rw [decide_eq, if_neg fun ha => by have := List.all_eq_true.1 ha p hp; rw [hn] at this; cases this]

theorem decide_allBool (ps : List Pred) (h : AllBool ps) :
    decide ps =
      if (falseOnes ps).any Pred.hasErr then some (.evalFail .member) else toResult (falseOnes ps) := by
  rw [decide_eq, if_pos ((allBool_iff ps).1 h)]

theorem mem_k8s_trace (lk : Lookup) (crud : Crud) :
    ∀ e ∈ lk.trace ++ crud.trace, e = .api ∨ e = .resource := by
  have h1 : ∀ e ∈ lk.trace, e = .api := by cases lk <;> decide
  have h2 : ∀ e ∈ crud.trace, e = .api ∨ e = .resource := by cases crud <;> decide
  exact fun e he => (List.mem_append.1 he).elim (fun h => .inl (h1 e h)) (h2 e)

theorem vfRun_decided {pre : List Pred} {d : Decision} (hasReturn : Bool) (h : decide pre = some d) :
    vfRun pre hasReturn = ⟨.decided d, [.preconditions]⟩ := by
  simp [vfRun, h]

theorem vfRun_continue {pre : List Pred} (hasReturn : Bool) (h : decide pre = none) :
    vfRun pre hasReturn =
      if hasReturn then ⟨.body "return", [.preconditions, .locals, .returnValue]⟩
      else ⟨.body "null", [.preconditions]⟩ := by
  simp [vfRun, h]

theorem rfRunR_decided {pre : List Pred} {d : Decision} (hasReturn : Bool) (post : List Pred) (lk : Lookup)
    (crud : Crud) (h : decide pre = some d) :
    rfRunR hasReturn pre post lk crud = ⟨.decided d, [.preconditions]⟩ := by
  simp [rfRunR, h]

theorem rfRunR_unknownKind {pre : List Pred} (hasReturn : Bool) (post : List Pred) (crud : Crud)
    (h : decide pre = none) :
    rfRunR hasReturn pre post .unknownKind crud =
      ⟨.body "lookupFailed", [.preconditions, .locals, .apiConfig, .api]⟩ := by
  simp [rfRunR, h, Lookup.trace]

theorem rfRunR_post_decided (hasReturn : Bool) {pre post : List Pred} {lk : Lookup} {crud : Crud}
    {d : Decision} (hpre : decide pre = none) (hlk : lk ≠ .unknownKind) (hok : crud.isOk = true)
    (h : decide post = some d) :
    rfRunR hasReturn pre post lk crud =
      ⟨.decided d, [.preconditions, .locals, .apiConfig] ++ (lk.trace ++ crud.trace) ++ [.postconditions]⟩ := by
  cases lk with
  | unknownKind => exact absurd rfl hlk
  | _ => simp [rfRunR, hpre, hok, h]

end Koreo.Predicates
