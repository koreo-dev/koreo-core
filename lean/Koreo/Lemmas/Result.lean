/-
  Lemmas for C03 (outcome algebra); the property theorems are in `Props/C03.lean`.

  First the messages: `mergeMsgs` is the specification of a merged message; it is what folding `join2` over
  the messages gives (`foldl_join2`: a join put back as one message stands for its members,
  `truthyList_join`), and the join cuts nothing (`joinStrs_length`, `joinStrs_contains`).

  `Outcome.combine` is read off its table once, in four pairwise facts: the class of the result
  (`combine_cls`), a less severe left operand is dropped (`combine_lt`), Retry and PermFail absorb a less
  severe right operand (`combine_absorb`), below Retry the values are concatenated (`combine_vals`).
  What `fold` does to a list follows from these by induction: the class is the maximum over the seed and
  the elements (`fold_rank_max`), the values are all values (`fold_vals`), and from the first element of
  the winning class on a Retry or PermFail accumulator merges exactly the winners, field by field
  (`fold_retry`, `fold_permFail`).
-/
import Koreo.Result

namespace Koreo.Result
variable {α : Type}

theorem truthyList_eq (ms : List (Option String)) : truthyList ms = ms.filterMap (·.filter (· != "")) := by
  induction ms with
  | nil => rfl
  | cons m ms ih =>
    cases m with
    | none => simpa [truthyList] using ih
    | some s => by_cases h : s = "" <;> simp [truthyList, h, ih, Option.filter]

theorem mem_truthyList (ms : List (Option String)) (s : String) :
    s ∈ truthyList ms ↔ (some s ∈ ms ∧ s ≠ "") := by
  simp only [truthyList_eq, List.mem_filterMap, Option.filter_eq_some_iff, bne_iff_ne]
  exact ⟨fun ⟨_, hm, e, hs⟩ => ⟨e ▸ hm, hs⟩, fun ⟨hm, hs⟩ => ⟨_, hm, rfl, hs⟩⟩

theorem truthyList_append (a b : List (Option String)) :
    truthyList (a ++ b) = truthyList a ++ truthyList b := by
  simp [truthyList_eq]

theorem joinStrs_ne_empty (l : List String) (hl : l ≠ []) (h : ∀ s ∈ l, s ≠ "") : joinStrs l ≠ "" := by
  -- the three shapes `joinStrs` distinguishes: `[]`, `[a]`, `a :: b :: rest`
  fun_cases joinStrs l
  · exact absurd rfl hl
  · exact h _ (by simp)
  · next a b rest =>
    intro hc
    exact h a (by simp) (String.append_eq_empty_iff.1 (String.append_eq_empty_iff.1 hc).1).1

theorem joinStrs_append (l r : List String) (hl : l ≠ []) : joinStrs (l ++ r) = joinStrs (joinStrs l :: r) := by
  fun_induction joinStrs l with
  | case1 => exact absurd rfl hl
  | case2 a => rfl
  | case3 a b rest ih =>
    rw [List.cons_append] at ih
    rw [List.cons_append, List.cons_append, joinStrs, ih (by simp)]
    cases r <;> simp [joinStrs, String.append_assoc]

/-- what the messages (or locations) of a class's winners merge to -/
def mergeMsgs : List (Option String) → Option String
  | [m] => m
  | ms => some (joinStrs (truthyList ms))

theorem truthyList_join (a b : List (Option String)) :
    joinStrs (truthyList (some (joinStrs (truthyList a)) :: b)) = joinStrs (truthyList (a ++ b)) := by
  rw [truthyList_append]
  -- the join of `a` is dropped exactly when `a` keeps nothing; otherwise it is non-empty and stands for what `a` keeps
  by_cases h : truthyList a = []
  · simp [h, truthyList, joinStrs]
  · have := joinStrs_ne_empty _ h fun s hs => ((mem_truthyList a s).1 hs).2
    simp [truthyList, this, joinStrs_append _ _ h]

theorem foldl_join2_join (a ms : List (Option String)) :
    ms.foldl join2 (some (joinStrs (truthyList a))) = some (joinStrs (truthyList (a ++ ms))) := by
  induction ms generalizing a with
  | nil => rw [List.append_nil]; rfl
  | cons x ms ih => rw [List.foldl_cons, join2, truthyList_join a [x], ih, List.append_assoc]; rfl

theorem foldl_join2 (m : Option String) (ms : List (Option String)) :
    ms.foldl join2 m = mergeMsgs (m :: ms) := by
  cases ms with
  | nil => rfl
  | cons x ms => exact foldl_join2_join [m, x] ms -- the first `join2` makes the seed a join

theorem sep_length : sep.length = 2 := by decide +kernel

theorem joinStrs_length (l : List String) :
    (joinStrs l).length = (l.map String.length).sum + sep.length * (l.length - 1) := by
  fun_induction joinStrs l with
  | case1 => simp
  | case2 a => simp
  | case3 a b rest ih =>
    simp only [String.length_append, ih, sep_length, List.map_cons, List.sum_cons, List.length_cons]
    omega

theorem joinStrs_contains (l : List String) (m : String) (h : m ∈ l) :
    ∃ pre post, joinStrs l = pre ++ m ++ post := by
  fun_induction joinStrs l with
  | case1 => simp at h
  | case2 a => exact ⟨"", "", by simp [List.mem_singleton.1 h]⟩
  | case3 a b rest ih =>
    rcases List.mem_cons.1 h with rfl | h'
    · exact ⟨"", sep ++ joinStrs (b :: rest), by simp [String.append_assoc]⟩
    · obtain ⟨pre, post, e⟩ := ih h'
      exact ⟨a ++ sep ++ pre, post, by simp [e, String.append_assoc]⟩

theorem mergeMsgs_contains (ms : List (Option String)) (s : String) (h : some s ∈ ms) (hs : s ≠ "") :
    ∃ t pre post, mergeMsgs ms = some t ∧ t = pre ++ s ++ post := by
  -- a single message is kept as it is, anything else is joined
  fun_cases mergeMsgs ms
  · next m => exact ⟨s, "", "", (List.mem_singleton.1 h).symm, by simp⟩
  · obtain ⟨pre, post, e⟩ := joinStrs_contains (truthyList ms) s ((mem_truthyList _ s).2 ⟨h, hs⟩)
    exact ⟨_, pre, post, rfl, e⟩

theorem combine_cls (a b : Outcome α) : (a.combine b).cls = maxCls a.cls b.cls := by
  cases a <;> cases b <;> rfl

theorem combine_lt (a b : Outcome α) (h : a.cls.rank < b.cls.rank) : a.combine b = b := by
  cases a <;> cases b <;> simp_all [Outcome.combine, Outcome.cls, Cls.rank]

/-- `3 ≤`: Ok does not return `self` for a less severe operand, it re-wraps its data. -/
theorem combine_absorb (a b : Outcome α) (h3 : 3 ≤ a.cls.rank) (hle : b.cls.rank ≤ a.cls.rank)
    (hne : b.cls ≠ a.cls) : a.combine b = a := by
  cases a <;> cases b <;> simp_all [Outcome.combine, Outcome.cls, Cls.rank]

theorem combine_vals (a b : Outcome α) (ha : a.cls.rank ≤ 2) (hb : b.cls.rank ≤ 2) :
    (a.combine b).vals = a.vals ++ b.vals := by
  cases a <;> cases b <;> simp_all [Outcome.combine, Outcome.cls, Cls.rank, Outcome.vals, unwrapData]

theorem maxCls_rank (a b : Cls) : (maxCls a b).rank = max a.rank b.rank := by
  unfold maxCls; split <;> omega

theorem rank_inj {a b : Cls} (h : a.rank = b.rank) : a = b := by
  cases a <;> cases b <;> simp_all [Cls.rank]

theorem rank_le_four (c : Cls) : c.rank ≤ 4 := by cases c <;> decide

theorem cls_ok_iff {o : Outcome α} : o.cls = .ok ↔ ∃ d l, o = .ok d l := by
  cases o <;> simp [Outcome.cls]

theorem cls_retry_iff {o : Outcome α} : o.cls = .retry ↔ ∃ d m l, o = .retry d m l := by
  cases o <;> simp [Outcome.cls]

theorem cls_permFail_iff {o : Outcome α} : o.cls = .permFail ↔ ∃ m l, o = .permFail m l := by
  cases o <;> simp [Outcome.cls]

theorem combine_of_ne_nil {xs : List (Outcome α)} (h : xs ≠ []) :
    combine xs = match fold xs with
      | .ok d l => .okList (unwrapData d) l
      | o => .nonOk o := by
  cases xs with
  | nil => exact absurd rfl h
  | cons x xs => rfl

theorem unwrappedCombine_eq (xs : List (Unwrapped α)) :
    unwrappedCombine xs = match combine (xs.map Unwrapped.lift) with
      | .okList vs _ => .okList vs none
      | c => c := by
  cases xs with
  | nil => rfl
  | cons x xs =>
    rw [combine_of_ne_nil (by simp)]
    simp only [unwrappedCombine, List.isEmpty_cons, Bool.false_eq_true, if_false]
    cases fold ((x :: xs).map Unwrapped.lift) <;> rfl

theorem combine_cls_fold {xs : List (Outcome α)} (h : xs ≠ []) : (combine xs).cls = (fold xs).cls := by
  rw [combine_of_ne_nil h]
  cases fold xs <;> rfl

/-- `combine []` is Skip; an answer of any other class comes from the fold -/
theorem combine_of_cls {xs : List (Outcome α)} {c : Cls} (hc : (combine xs).cls = c) (hs : c ≠ .skip) :
    (fold xs).cls = c ∧ combine xs = match fold xs with
      | .ok d l => .okList (unwrapData d) l
      | o => .nonOk o := by
  have hne : xs ≠ [] := fun e => hs (by rw [← hc, e]; rfl)
  exact ⟨(combine_cls_fold hne).symm.trans hc, combine_of_ne_nil hne⟩

theorem unwrappedCombine_cls (xs : List (Unwrapped α)) :
    (unwrappedCombine xs).cls = (combine (xs.map Unwrapped.lift)).cls := by
  rw [unwrappedCombine_eq]
  cases combine (xs.map Unwrapped.lift) <;> rfl

/-- The class of a fold is the most severe one among the seed and the elements; stated through `List.max?`
    so that core's `List.max?_eq_some_iff` says so. -/
theorem fold_rank_max (acc : Outcome α) (xs : List (Outcome α)) :
    ((acc :: xs).map (·.cls.rank)).max? = some (xs.foldl Outcome.combine acc).cls.rank := by
  rw [List.map_cons, List.max?_cons', List.foldl_map]
  exact congrArg some
    (List.foldl_hom (fun o : Outcome α => o.cls.rank) fun a x => by rw [combine_cls, maxCls_rank])

theorem fold_cls_mem (acc : Outcome α) (xs : List (Outcome α)) :
    ∃ x ∈ acc :: xs, x.cls = (xs.foldl Outcome.combine acc).cls := by
  obtain ⟨x, hx, e⟩ := List.mem_map.1 (List.max?_eq_some_iff.1 (fold_rank_max acc xs)).1
  exact ⟨x, hx, rank_inj e⟩

theorem fold_rank_ge (xs : List (Outcome α)) {x : Outcome α} (hx : x ∈ xs) : x.cls.rank ≤ (fold xs).cls.rank :=
  (List.max?_eq_some_iff.1 (fold_rank_max _ xs)).2 _ (List.mem_map_of_mem (.tail _ hx))

theorem combine_rank_ge (xs : List (Outcome α)) {x : Outcome α} (hx : x ∈ xs) :
    x.cls.rank ≤ (combine xs).cls.rank := by
  rw [combine_cls_fold (List.ne_nil_of_mem hx)]
  exact fold_rank_ge xs hx

theorem unwrappedCombine_rank_ge (xs : List (Unwrapped α)) {x : Unwrapped α} (hx : x ∈ xs) :
    x.lift.cls.rank ≤ (unwrappedCombine xs).cls.rank := by
  rw [unwrappedCombine_cls]
  exact combine_rank_ge _ (List.mem_map.2 ⟨x, hx, rfl⟩)

theorem fold_vals (acc : Outcome α) (xs : List (Outcome α)) (ha : acc.cls.rank ≤ 2)
    (h : ∀ x ∈ xs, x.cls.rank ≤ 2) :
    (xs.foldl Outcome.combine acc).vals = acc.vals ++ xs.flatMap Outcome.vals := by
  induction xs generalizing acc with
  | nil => simp
  | cons x xs ih =>
    have hx := h x (by simp)
    rw [List.foldl_cons, ih _ (by rw [combine_cls, maxCls_rank]; omega) (fun y hy => h y (by simp [hy])),
      combine_vals acc x ha hx, List.flatMap_cons, List.append_assoc]

/-- `acc` already has the most severe class of `acc :: xs`: folding `xs` into it cannot change its class any more -/
def Dominated (acc : Outcome α) (xs : List (Outcome α)) : Prop :=
  ∀ x ∈ xs, x.cls.rank ≤ acc.cls.rank

theorem fold_dominated_cls (acc : Outcome α) (xs : List (Outcome α)) (h : Dominated acc xs) :
    (xs.foldl Outcome.combine acc).cls = acc.cls := by
  induction xs generalizing acc with
  | nil => rfl
  | cons x xs ih =>
    have hc : (acc.combine x).cls = acc.cls := by
      rw [combine_cls, maxCls, if_neg (Nat.not_lt.2 (h x (by simp)))]
    rw [List.foldl_cons, ih _ (fun y hy => hc ▸ h y (by simp [hy])), hc]

/-- `winners` filters with `==`, and `Cls` derives `BEq` and `DecidableEq` independently of each other. -/
instance : LawfulBEq Cls where
  eq_of_beq {a b} h := by cases a <;> cases b <;> first | rfl | cases h
  rfl {a} := by cases a <;> rfl

/-- the elements of class `c`, in order: with `c` the most severe class present, the ones `combine` merges -/
def winners (c : Cls) (xs : List (Outcome α)) : List (Outcome α) := xs.filter (·.cls == c)

theorem mem_winners {c : Cls} {xs : List (Outcome α)} {x : Outcome α} :
    x ∈ winners c xs ↔ x ∈ xs ∧ x.cls = c := by
  simp [winners]

theorem winners_cons (c : Cls) (x : Outcome α) (xs : List (Outcome α)) :
    winners c (x :: xs) = if x.cls = c then x :: winners c xs else winners c xs := by
  simp only [winners, List.filter_cons, beq_iff_eq]

theorem winners_retry_delays (xs : List (Outcome α)) :
    (winners .retry xs).map (fun o => o.delay?.getD 0) = xs.filterMap Outcome.delay? := by
  induction xs with
  | nil => rfl
  | cons x xs ih =>
    rw [winners_cons, List.filterMap_cons, ← ih]
    cases x <;> rfl

theorem fold_retry (d : Int) (m l : Option String) (xs : List (Outcome α)) (h : ∀ x ∈ xs, x.cls.rank ≤ 3) :
    xs.foldl Outcome.combine (Outcome.retry d m l) =
      Outcome.retry ((winners .retry xs).foldl (fun a o => delayOp a (o.delay?.getD 0)) d)
        (((winners .retry xs).map Outcome.msg).foldl join2 m)
        (((winners .retry xs).map Outcome.loc).foldl join2 l) := by
  induction xs generalizing d m l with
  | nil => rfl
  | cons x xs ih =>
    have hxs : ∀ y ∈ xs, y.cls.rank ≤ 3 := fun y hy => h y (by simp [hy])
    rw [List.foldl_cons, winners_cons]
    by_cases hx : x.cls = .retry
    · obtain ⟨d', m', l', rfl⟩ := cls_retry_iff.1 hx
      rw [if_pos hx]
      exact ih _ _ _ hxs -- `Retry.combine(Retry)` is this step of the three folds
    · rw [combine_absorb (.retry d m l) x (Nat.le_refl 3) (h x (by simp)) hx, ih _ _ _ hxs, if_neg hx]

/-- no hypothesis on `xs`: nothing is more severe than PermFail -/
theorem fold_permFail (m l : Option String) (xs : List (Outcome α)) :
    xs.foldl Outcome.combine (Outcome.permFail m l) =
      Outcome.permFail (((winners .permFail xs).map Outcome.msg).foldl join2 m)
        (((winners .permFail xs).map Outcome.loc).foldl join2 l) := by
  induction xs generalizing m l with
  | nil => rfl
  | cons x xs ih =>
    rw [List.foldl_cons, winners_cons]
    by_cases hx : x.cls = .permFail
    · obtain ⟨m', l', rfl⟩ := cls_permFail_iff.1 hx
      rw [if_pos hx]
      exact ih _ _
    · rw [combine_absorb (.permFail m l) x (Nat.le_succ 3) (rank_le_four x.cls) hx, ih, if_neg hx]

theorem split_first (n : Nat) (xs : List (Outcome α)) (hmax : ∀ x ∈ xs, x.cls.rank ≤ n)
    (hex : ∃ x ∈ xs, x.cls.rank = n) :
    ∃ pre w post, xs = pre ++ w :: post ∧ w.cls.rank = n ∧
      (∀ x ∈ pre, x.cls.rank < n) ∧ (∀ x ∈ post, x.cls.rank ≤ n) := by
  cases h : xs.find? (·.cls.rank == n) with
  | none =>
    obtain ⟨x, hx, hxn⟩ := hex
    exact absurd hxn (by simpa using List.find?_eq_none.1 h x hx)
  | some w =>
    obtain ⟨hw, pre, post, rfl, hpre⟩ := List.find?_eq_some_iff_append.1 h
    refine ⟨pre, w, post, rfl, by simpa using hw, fun x hx => ?_, fun x hx => hmax x (by simp [hx])⟩
    exact Nat.lt_of_le_of_ne (hmax x (by simp [hx])) (by simpa using hpre x hx)

theorem fold_split (acc : Outcome α) (pre post : List (Outcome α)) (w : Outcome α)
    (hpre : ∀ x ∈ acc :: pre, x.cls.rank < w.cls.rank) :
    (pre ++ w :: post).foldl Outcome.combine acc = post.foldl Outcome.combine w := by
  rw [List.foldl_append, List.foldl_cons]
  congr 1
  -- the fold over `pre` has the class of the seed or of an element, so `w` replaces it
  obtain ⟨x, hx, e⟩ := fold_cls_mem acc pre
  exact combine_lt _ w (e ▸ hpre x hx)

theorem winners_split (pre post : List (Outcome α)) (w : Outcome α)
    (hpre : ∀ x ∈ pre, x.cls.rank < w.cls.rank) :
    winners w.cls (pre ++ w :: post) = w :: winners w.cls post := by
  have : winners w.cls pre = [] := List.filter_eq_nil_iff.2 fun x hx => by
    simp only [beq_iff_eq]; intro e; exact Nat.lt_irrefl _ (e ▸ hpre x hx)
  unfold winners at this ⊢
  rw [List.filter_append, this, List.nil_append, List.filter_cons_of_pos (by simp)]

end Koreo.Result
